import Tau.Base
import Tau.Syntax
import Tau.Num
import Tau.Tokeniser
import Tau.Pratt
import Tau.Pattern
import Tau.Mapping
import Tau.Find
import Tau.Solver
import Tau.Optimiser
import Tau.Rule
import Tau.Trace
import Tau.Proofs.Tri
import Tau.Proofs.FloatOrder
import Tau.Proofs.Rule
import Tau.Proofs.Solver
import Tau.Proofs.Basics
import Tau.Proofs.Tokeniser
import Tau.Proofs.Sim
import Tau.Proofs.Signed
import Tau.Proofs.Pattern
import Tau.Proofs.Frame
import Tau.Properties.C01
import Tau.Properties.C02
import Tau.Properties.C03
import Tau.Properties.C04
import Tau.Properties.C05
import Tau.Properties.C06
import Tau.Properties.C07
import Tau.Properties.C08
import Tau.Properties.C09
import Tau.Properties.C10
import Tau.Properties.C11
import Tau.Properties.C12
import Tau.Properties.C13
import Tau.Properties.C14
import Tau.Properties.C15
import Tau.Properties.C16
import Tau.Properties.C17
import Tau.Safe
import Tau.Proofs.Rewrite
import Tau.Proofs.Pratt
import Tau.Proofs.IdentScan
import Tau.Proofs.Safe
import Tau.Proofs.MemberLoop
import Tau.Proofs.MappingBuilt
import Tau.Proofs.MappingSafe
import Tau.Proofs.PrattPP
import Tau.Proofs.TraceKeys
import Tau.Proofs.Shake0
import Tau.Proofs.MappingShake
import Tau.Proofs.Batch
import Tau.Proofs.SafeOpt
import Tau.Proofs.Grouping
import Tau.Proofs.Shake1Eqs
import Tau.Proofs.Shake1Safe
import Tau.Proofs.MatrixShape
import Tau.Proofs.MatrixSafe
import Tau.Proofs.TokRT
import Tau.Proofs.Merge
import Tau.Proofs.Shake1Shape
import Tau.Proofs.Shake1Or
import Tau.Proofs.Shake1Exact
import Tau.Proofs.Shake0X
import Tau.Proofs.MatrixTruth
import Tau.Proofs.Shake1Truth
import Tau.Proofs.PrattTotal
import Tau.Proofs.LoadTotal
import Tau.Proofs.TokGaps
