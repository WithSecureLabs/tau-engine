import Tau.Proofs.Rewrite
import Tau.Proofs.MatrixTruth
import Tau.Proofs.Shake0X
import Tau.Proofs.Shake1Truth
import Tau.Proofs.MappingShake
import Tau.Proofs.Rule
/-
  C01 — Optimisation never changes a verdict.

  Full statement (kept visible):  for every loaded rule `r`, mask `sw` and document `d`
      (r.optimise E sw).matches E d = r.matches E d.
  On the current code this is FALSE (known findings KF-C01-*, witnesses proved below), so what is
  proved is one soundness theorem per pass where the pass is sound, the negation by witness where
  it is not, and the algebra that says which merges are exact.
-/
namespace Tau.C01
open Tau

/-- **coalesce is exact**: evaluating the coalesced tree with no identifier environment gives the
    three-valued result of the original condition under the environment, for every document and
    every tree of the shape the condition parser builds (`PShape`, see `parse_shape`). -/
theorem coalesce_sound (E : RegexEngine) (ids : Ids) (d : Doc) (e : Expr) (h : PShape e) :
    solveClosed E d (coalesce ids e) = solveTop E ids d e :=
  -- `solveG` on an identifier, on all()/of() of one, on a literal, a `not`, an `and`/`or` unfolds by
  -- definition; under `topK` the first two are the look-up
  h.coalesce_ind ids (P := fun c c' => solveClosed E d c' = solveTop E ids d c)
    (fun i => by
      show _ = match lookupId ids i with | some b => solveClosed E d b | none => .m
      cases lookupId ids i <;> rfl)
    (fun k i => by
      cases k <;> (show _ = match lookupId ids i with | some b => solveClosed E d (.match _ b) | none => .m) <;>
        cases lookupId ids i <;> rfl)
    (fun e _ he => by
      cases e with
      | bool _ | cast _ _ | field _ | float _ | int _ | null => rfl
      | _ => cases he)
    (fun _ ih => congrArg Tri.not ih)
    (fun op hop _ _ ihl ihr => by
      rcases hop with rfl | rfl
      · exact (congr (congrArg binAnd ihl) ihr :)
      · exact (congr (congrArg binOr ihl) ihr :))
    (fun l op r h1 h2 _ _ => (solveG_bin_cmp E _ d ⟨h1, h2⟩).trans (solveG_bin_cmp E _ d ⟨h1, h2⟩).symm)

theorem coalesce_sound_parsed (E : RegexEngine) (ids : Ids) (d : Doc) (ts : List Token) (e : Expr)
    (h : parse ts = .ok e) : solveClosed E d (coalesce ids e) = solveTop E ids d e :=
  coalesce_sound E ids d e (parse_shape ts e h)

/-- Rule level: optimising with the coalesce switch alone never changes the three-valued result,
    hence never the verdict, of a rule whose condition came out of the parser. -/
theorem optimise_coalesce_only (E : RegexEngine) (r : Rule) (d : Doc) (h : PShape r.det.expr)
    (hopt : r.optimised = false) :
    (r.optimise E ⟨true, false, false, false⟩).solve E d = r.solve E d := by
  rw [Rule.optimise_coalesced_solve E hopt]
  exact coalesce_sound E r.det.ids d r.det.expr h

/-- A regex engine for closed witnesses (no regex is involved in them). -/
def E0 : RegexEngine := { compiles := fun _ _ => false, isMatch := fun _ _ _ => false }

/-- KF-C01-double-negation: `not not A` over a missing field is true; after `shake` it is missing. -/
theorem shake_double_negation_unsound :
    let a : Expr := .search (.exact ['x']) ['f'] false
    let e : Expr := .negate (.negate a)
    let d : Doc := .obj []
    solveClosed E0 d e = .t ∧ solveClosed E0 d (shake e) = .m := by
  decide +kernel

/-- KF-C01-and-reorder: shake moves the nested conjunct behind `c`; false and missing swap, and the
    negation turns that into a different verdict. -/
theorem shake_and_reorder_unsound :
    let a : Expr := .group .and
      [ .nested ['a'] (.bin (.field ['x']) .eq (.int 1)), .bin (.field ['c']) .eq (.int 1) ]
    let e : Expr := .negate a
    let d : Doc := .obj [(['c'], .uint 2)]
    solveClosed E0 d e = .f ∧ solveClosed E0 d (shake e) = .t := by
  decide +kernel

/-- KF-C01-match-reshape: `all(X)` counts the members of X's group; shake unwraps the one-member
    group around the automaton, and the count changes. -/
theorem shake_match_reshape_unsound :
    let x : Expr := .group .or [ .search (.ac [.startsWith ['a'], .endsWith ['b']] false) ['f'] false ]
    let ids : Ids := [(['X'], x)]
    let ids' : Ids := [(['X'], shake x)]
    let e : Expr := .match .all (.ident ['X'])
    let d : Doc := .obj [(['f'], .str ['a', 'x'])]
    solveTop E0 ids d e = .t ∧ solveTop E0 ids' d e = .f := by
  decide +kernel

/-- Merging or-operands in any order / grouping is exact. -/
theorem or_append (xs ys : List Tri) : Tri.or (xs ++ ys) = Tri.or [Tri.or xs, Tri.or ys] := by
  rw [or_append', binOr_eq]

/-- Flattening nested and-groups is exact (the and table is associative)… -/
theorem and_append (xs ys : List Tri) : Tri.and (xs ++ ys) = Tri.and [Tri.and xs, Tri.and ys] := by
  rw [and_append', binAnd_eq]

/-- …but it is not commutative between false and missing, and double negation is not the identity:
    exactly the two algebraic facts the failing passes rely on. -/
theorem and_not_commutative : Tri.and [.f, .m] ≠ Tri.and [.m, .f] := by decide
theorem not_not_missing : Tri.not (Tri.not .m) ≠ .m := by decide

/-- A one-member group is its member, for both connectives (shake_0's unwrapping is exact for
    evaluation; it is unsound only for what `all()/of()` count). -/
theorem single_group (E : RegexEngine) (K : IdentK) (d : Doc) (op : BoolSym) (e : Expr)
    (h : op = .and ∨ op = .or) :
    solveG E K d (.group op [e]) = solveG E K d e :=
  (unwrapGroup_solve E K d op [e] h).symm

theorem flatten_and (E : RegexEngine) (K : IdentK) (d : Doc) (x y z : Expr) :
    solveG E K d (.bin (.bin x .and y) .and z) = solveG E K d (.group .and [x, y, z]) :=
  (regroup_value E K (.inl rfl) (.bin x y) (.self z) d).symm

theorem flatten_or (E : RegexEngine) (K : IdentK) (d : Doc) (x y z : Expr) :
    solveG E K d (.bin (.bin x .or y) .or z) = solveG E K d (.group .or [x, y, z]) :=
  (regroup_value E K (.inr rfl) (.bin x y) (.self z) d).symm

/-- **rewrite is exact** for every tree, every identifier continuation and every document, under
    the one assumption the engine itself makes about the regex crate (`StripLaw`: a stripped pattern
    that still compiles matches the same strings in an unanchored search). When the stripped
    pattern does not compile the engine keeps the original, which the model mirrors. -/
theorem rewrite_sound (E : RegexEngine) (hL : StripLaw E) (K : IdentK) (d : Doc) (e : Expr) :
    solveG E K d (rewrite E e) = solveG E K d e :=
  solveG_rewrite E hL K d e

/-- For closed trees (identifier bodies; the condition itself holds no search). -/
theorem rewrite_sound_closed (E : RegexEngine) (hL : StripLaw E) (d : Doc) (e : Expr) :
    solveClosed E d (rewrite E e) = solveClosed E d e := rewrite_sound E hL closedK d e

/-! `shake0F` is the model of `shake_0` that also reports whether it eliminated a double negation
  (the step `shake_double_negation_unsound` shows to be wrong).  `shakeOK` is the class of trees
  `parse_identifier` and the condition parser build, minus exactly the shape of
  `shake_match_reshape_unsound` (an all()/of() directly on a one-member group or an and/or chain). -/

/-- **shake_0 is exact** — same three-valued result on every document, for every identifier
    continuation — on every `shakeOK` tree on which it eliminates no double negation. -/
theorem shake0_exact (E : RegexEngine) (K : IdentK) (fuel : Nat) (e : Expr) (hok : shakeOK e = true)
    (hfl : (shake0F fuel e).2 = false) (d : Doc) :
    solveG E K d (shake0 fuel e) = solveG E K d e :=
  shake0_sound E K fuel e hok hfl d

/-- … and its output is again such a tree. -/
theorem shake0_closed (fuel : Nat) (e : Expr) (hok : shakeOK e = true)
    (hfl : (shake0F fuel e).2 = false) : shakeOK (shake0 fuel e) = true :=
  shake0_shakeOK fuel e hok hfl

/-- Every identifier body the loader builds is in the class. -/
theorem identifier_bodies_shakeOK (E : RegexEngine) (ic : Bool) (y : Yaml) (e : Expr)
    (h : parseIdentifier E ic y = .ok e) : shakeOK e = true :=
  parseIdentifier_shakeOK E ic y e h

/-- The identifiers a condition puts under all()/of(). -/
def matchIds : Expr → List Str
  | .match _ (.ident i) => [i]
  | .negate e => matchIds e
  | .bin l _ r => matchIds l ++ matchIds r
  | _ => []

theorem xOK_of_not_solvable (e : Expr) (h : e.isSolvable = false) : xOK e = true := by
  cases e with
  | bool _ | cast _ _ | field _ | float _ | int _ | null => rfl
  | _ => cases h

/-- `topN` is there for the induction: `xOK` of an `and` asks it of both operands. -/
theorem pshape_class (c : Expr) (h : PShape c) : shakeOK c = true ∧ xOK c = true ∧ topN c = false := by
  induction h with
  | ident i => exact ⟨rfl, rfl, rfl⟩
  | matchIdent k i => exact ⟨rfl, rfl, rfl⟩
  | litFloat b => exact ⟨rfl, rfl, rfl⟩
  | litInt i => exact ⟨rfl, rfl, rfl⟩
  | litCast f m => exact ⟨rfl, rfl, rfl⟩
  | negate _ _ ih => exact ⟨ih.1, ih.2.1, rfl⟩
  | binBool op hop _ _ _ _ ihl ihr => rcases hop with rfl | rfl <;> simp [shakeOK, xOK, topN, ihl, ihr]
  | cmp l op r h1 h2 hl hr =>
    -- a comparison: `shakeOK` asks for leaves, `xOK` looks at the operands, `topN` reads the symbol
    have hc : shakeOK (.bin l op r) = (isLeafE l && isLeafE r) ∧ xOK (.bin l op r) = (xOK l && xOK r) ∧
        topN (.bin l op r) = false := by
      cases op with
      | and => exact absurd rfl h1
      | or => exact absurd rfl h2
      | _ => exact ⟨rfl, rfl, rfl⟩
    exact ⟨by rw [hc.1, isLeafE_eq, isLeafE_eq, hl, hr]; rfl,
      by rw [hc.2.1, xOK_of_not_solvable l hl, xOK_of_not_solvable r hr]; rfl, hc.2.2⟩

theorem pshape_shakeOK (c : Expr) (h : PShape c) : shakeOK c = true := (pshape_class c h).1

/-- Coalescing a parsed condition over bodies in the class stays in the class, provided the
    bodies put under all()/of() are not the reshaped kind. -/
theorem coalesce_shakeOK (ids : Ids) (c : Expr) (h : PShape c)
    (hb : ∀ i b, lookupId ids i = some b → shakeOK b = true)
    (hm : ∀ i ∈ matchIds c, ∀ b, lookupId ids i = some b → matchChildOK b = true) :
    shakeOK (coalesce ids c) = true :=
  -- `shakeOK` and `matchIds` unfold by definition at every node of a parsed condition
  h.coalesce_ind ids
    (P := fun c c' => (∀ i ∈ matchIds c, ∀ b, lookupId ids i = some b → matchChildOK b = true) →
      shakeOK c' = true)
    (fun i _ => by
      cases hl : lookupId ids i with
      | none => rfl
      | some b => exact hb i b hl)
    (fun k i hm => by
      cases hl : lookupId ids i with
      | none => rfl
      | some b => exact (congr (congrArg and (hm i List.mem_cons_self b hl)) (hb i b hl) :))
    (fun e he _ _ => pshape_shakeOK e he)
    (fun _ ih => ih)
    (fun op hop _ _ ihl ihr hm => by
      have h1 := ihl fun i hi => hm i (List.mem_append_left _ hi)
      have h2 := ihr fun i hi => hm i (List.mem_append_right _ hi)
      rcases hop with rfl | rfl <;> exact (congr (congrArg and h1) h2 :))
    (fun l op r h1 h2 hl hr _ => pshape_shakeOK _ (.cmp l op r h1 h2 hl hr)) hm

theorem loaded_bodies_shakeOK (E : RegexEngine) (ic : Bool) (entries : List (Str × Yaml)) (d : Detection)
    (h : loadDetection E ic entries = .ok d) :
    ∀ i b, lookupId d.ids i = some b → shakeOK b = true :=
  loadDetection_bodies (parseIdentifier_shakeOK E ic) h

/-- For a loaded rule: coalesce followed by shake_0 gives, on every document, the
    three-valued result of the unoptimised rule — unless shake_0 eliminated a double negation, or
    the condition applies all()/of() to an identifier whose body is a one-member group (the two
    recorded findings). -/
theorem coalesce_shake0_exact (E : RegexEngine) (ic : Bool) (entries : List (Str × Yaml)) (det : Detection)
    (h : loadDetection E ic entries = .ok det) (fuel : Nat)
    (hm : ∀ i ∈ matchIds det.expr, ∀ b, lookupId det.ids i = some b → matchChildOK b = true)
    (hfl : (shake0F fuel (coalesce det.ids det.expr)).2 = false) (d : Doc) :
    solveClosed E d (shake0 fuel (coalesce det.ids det.expr)) = solveTop E det.ids d det.expr := by
  have hshape := (loadDetection_shape h).1
  rw [← coalesce_sound E det.ids d det.expr hshape]
  exact shake0_exact E closedK fuel _
    (coalesce_shakeOK det.ids det.expr hshape (loaded_bodies_shakeOK E ic entries det h) hm) hfl d

/-- Not about the identity: a condition `A and B and C` is regrouped by shake_0, no double
    negation, every side condition holds. -/
example :
    let a : Expr := .search (.exact ['x']) ['f'] false
    let e : Expr := .bin (.bin a .and a) .and (.match .all (.group .or [a, a]))
    shakeOK e = true ∧ (shake0F 10 e).2 = false ∧
      (match shake0 10 e with | .group .and xs => xs.length | _ => 0) = 3 := by decide +kernel

/-- Or-arm, nested members on one field: `f: {x1}` or `f: {x2}` … is `f: {x1 or x2 …}` — exactly,
    on every document (missing field, object, array of objects, anything else). -/
theorem nested_or_merge (E : RegexEngine) (K : IdentK) (d : Doc) (f : Str) (xs : List Expr) (hne : xs ≠ [])
    (hns : ∀ x ∈ xs, nestedSpecial x = false) :
    solveG E K d (.nested f (.group .or xs)) = Tri.or (xs.map (fun x => solveG E K d (.nested f x))) :=
  Tau.nested_or_merge E K d f xs hne hns

theorem nestedAllOrG_eq (E : RegexEngine) (K : IdentK) (objs : List (List (Str × Value))) (xs : List Expr) :
    nestedAllOrG E K objs xs =
      Tri.and (xs.map (fun x => Tri.ofBool (objs.any (fun kvs => solveG E K (.obj kvs) x == .t)))) :=
  Tau.nestedAllOrG_eq E K objs xs

/-- And-arm, nested members on one field: `f: {x1}` and `f: {x2}` … is the merged
    `f: {all of [x1, x2 …]}` the pass builds — exactly, on every document. (What is NOT exact in
    that arm is moving the merged block behind the other conjuncts: `shake_and_reorder_unsound`.) -/
theorem nested_and_merge (E : RegexEngine) (K : IdentK) (d : Doc) (f : Str) (xs : List Expr) (hne : xs ≠ [])
    (hns : ∀ x ∈ xs, nestedSpecial x = false) :
    solveG E K d (.nested f (.match .all (.group .or xs))) =
      Tri.and (xs.map (fun x => solveG E K d (.nested f x))) :=
  Tau.nested_and_merge E K d f xs hne hns

/-- **shake_1 is exact** — same three-valued result on every document, for every identifier
    continuation and every depth budget — on every `e1OK` tree: and-groups hold no nested mapping
    (those are moved behind the other conjuncts: `shake_and_reorder_unsound`), a nested mapping is
    not directly an all()-list (the recorded nested-all finding), automatons and regex sets are
    non-empty, all()/of() do not sit on a reshaped operand.  This covers all of the or-arm:
    grouping needles by (field, cast, case flag) into automatons, regexes into sets, nested
    mappings on one field into one block, the sorting, and the repeated pass. -/
theorem shake1_exact (E : RegexEngine) (K : IdentK) (fuel : Nat) (e : Expr) (h : e1OK e = true) (d : Doc) :
    solveG E K d (shake1 fuel e) = solveG E K d e :=
  (shake1_good E K fuel e h).2.1 d

/-- … and its output is again such a tree.  (Any engine would do: the class half of `shake1_good`
    does not read the value half.) -/
theorem shake1_closed (fuel : Nat) (e : Expr) (h : e1OK e = true) : e1OK (shake1 fuel e) = true :=
  (shake1_good E0 closedK fuel e h).1

/-- **Both halves of `shake`**, with purely syntactic side conditions on the input tree. -/
theorem shake_exact (E : RegexEngine) (K : IdentK) (e : Expr) (hok : shakeOK e = true)
    (hx : xOK e = true) (hfl : (shake0F (shakeFuel e) e).2 = false) (d : Doc) :
    solveG E K d (shake e) = solveG E K d e := by
  unfold shake
  have h1 : e1OK (shake0 (shakeFuel e) e) = true :=
    e1OK_of _ (shake0_closed _ e hok hfl) (shake0_xOK _ e hok hfl hx)
  rw [shake1_exact E K _ _ h1 d]
  exact shake0_exact E K _ e hok hfl d

/-- **matrix keeps every verdict** on `mOK` trees: for every document the rebuilt tree is true
    exactly when the original is (rows report false/missing in column order, so the three-valued
    result may differ — the recorded finding KF-C01-matrix-order — but never whether it is a
    match). -/
theorem matrix_verdict (E : RegexEngine) (K : IdentK) (e : Expr) (h : mOK e = true) (d : Doc) :
    (solveG E K d (matrixPass e)).isT = (solveG E K d e).isT :=
  (isT_eq_iff _ _).mpr (matrix_good E K _ e h d)

/-- `φ = id`: the result; `φ = Tri.isT`: the verdict. -/
theorem optBody_exact {α : Type} (φ : Tri → α) (E : RegexEngine) (K : IdentK) (s rw : Bool)
    (hL : rw = true → StripLaw E) (x : Expr) (d : Doc)
    (hs : s = true → φ (solveG E K d (shake x)) = φ (solveG E K d x)) :
    φ (solveG E K d (optBody E s rw false x)) = φ (solveG E K d x) := by
  have h1 : φ (solveG E K d ((if s then shake else id) x)) = φ (solveG E K d x) := by
    cases s with
    | false => rfl
    | true => exact hs rfl
  cases rw with
  | false => exact h1
  | true => exact (congrArg φ (rewrite_sound E (hL rfl) K d _)).trans h1

/-- `optBody E s rw false x` unfolds to the term the rule-level statements spell out in their `mOK`
    hypotheses, which is how those reach `hm`. -/
theorem optBody_verdict (E : RegexEngine) (K : IdentK) (s rw m : Bool) (hL : rw = true → StripLaw E)
    (x : Expr) (d : Doc) (hs : s = true → (solveG E K d (shake x)).isT = (solveG E K d x).isT)
    (hm : m = true → mOK (optBody E s rw false x) = true) :
    (solveG E K d (optBody E s rw m x)).isT = (solveG E K d x).isT := by
  cases m with
  | false => exact optBody_exact Tri.isT E K s rw hL x d hs
  | true => exact (matrix_verdict E K _ (hm rfl) d).trans (optBody_exact Tri.isT E K s rw hL x d hs)

theorem loadRule_shape_shakeOK {E : RegexEngine} {ic : Bool} {src : RuleSrc} {r : Rule} (h : loadRule E ic src = .ok r) :
    PShape r.det.expr ∧ ∀ i b, lookupId r.det.ids i = some b → shakeOK b = true :=
  ⟨(loadDetection_shape (loadRule_det h)).1, loaded_bodies_shakeOK E ic _ _ (loadRule_det h)⟩

theorem loaded_coalesce_shakeOK {E : RegexEngine} {ic : Bool} {src : RuleSrc} {r : Rule}
    (h : loadRule E ic src = .ok r)
    (hm : ∀ i ∈ matchIds r.det.expr, ∀ b, lookupId r.det.ids i = some b → matchChildOK b = true) :
    shakeOK (coalesce r.det.ids r.det.expr) = true :=
  let ⟨hshape, hb⟩ := loadRule_shape_shakeOK h
  coalesce_shakeOK _ _ hshape hb hm

theorem optimise_coalesced_exact (E : RegexEngine) (r : Rule) (hopt : r.optimised = false)
    (hshape : PShape r.det.expr) (shake' rewrite' : Bool) (hL : rewrite' = true → StripLaw E) (d : Doc)
    (hs : shake' = true → solveClosed E d (shake (coalesce r.det.ids r.det.expr)) =
      solveClosed E d (coalesce r.det.ids r.det.expr)) :
    (r.optimise E ⟨true, shake', rewrite', false⟩).solve E d = r.solve E d := by
  rw [Rule.optimise_coalesced_solve E hopt, Rule.solve, ← coalesce_sound E r.det.ids d r.det.expr hshape]
  exact optBody_exact id E closedK shake' rewrite' hL _ d hs

theorem optimise_coalesced_verdict (E : RegexEngine) (r : Rule) (hopt : r.optimised = false)
    (hshape : PShape r.det.expr) (shake' rewrite' matrix' : Bool) (hL : rewrite' = true → StripLaw E) (d : Doc)
    (hs : shake' = true → (solveClosed E d (shake (coalesce r.det.ids r.det.expr))).isT =
      (solveClosed E d (coalesce r.det.ids r.det.expr)).isT)
    (hm : matrix' = true →
      mOK ((if rewrite' then rewrite E else id)
        ((if shake' then shake else id) (coalesce r.det.ids r.det.expr))) = true) :
    (r.optimise E ⟨true, shake', rewrite', matrix'⟩).matches E d = r.matches E d := by
  unfold Rule.matches
  rw [Rule.optimise_coalesced_solve E hopt, Rule.solve, ← coalesce_sound E r.det.ids d r.det.expr hshape]
  exact optBody_verdict E closedK shake' rewrite' matrix' hL _ d hs hm

theorem optimise_coalesce_shake (E : RegexEngine) (ic : Bool) (src : RuleSrc) (r : Rule)
    (h : loadRule E ic src = .ok r) (hopt : r.optimised = false)
    (hm : ∀ i ∈ matchIds r.det.expr, ∀ b, lookupId r.det.ids i = some b → matchChildOK b = true)
    (hx : xOK (coalesce r.det.ids r.det.expr) = true)
    (hfl : (shake0F (shakeFuel (coalesce r.det.ids r.det.expr)) (coalesce r.det.ids r.det.expr)).2 = false)
    (d : Doc) :
    (r.optimise E ⟨true, true, false, false⟩).solve E d = r.solve E d :=
  optimise_coalesced_exact E r hopt (loadRule_shape_shakeOK h).1 true false nofun d
    fun _ => shake_exact E closedK _ (loaded_coalesce_shakeOK h hm) hx hfl d

theorem optimise_coalesce_shake_rewrite (E : RegexEngine) (hL : StripLaw E) (ic : Bool) (src : RuleSrc) (r : Rule)
    (h : loadRule E ic src = .ok r) (hopt : r.optimised = false)
    (hm : ∀ i ∈ matchIds r.det.expr, ∀ b, lookupId r.det.ids i = some b → matchChildOK b = true)
    (hx : xOK (coalesce r.det.ids r.det.expr) = true)
    (hfl : (shake0F (shakeFuel (coalesce r.det.ids r.det.expr)) (coalesce r.det.ids r.det.expr)).2 = false)
    (d : Doc) :
    (r.optimise E ⟨true, true, true, false⟩).solve E d = r.solve E d :=
  optimise_coalesced_exact E r hopt (loadRule_shape_shakeOK h).1 true true (fun _ => hL) d
    fun _ => shake_exact E closedK _ (loaded_coalesce_shakeOK h hm) hx hfl d

/-- Not about the identity: three needles on one field and two nested mappings on one field are
    batched into one automaton and one nested block; every side condition holds. -/
example :
    let s (k : Str) (v : Str) : Expr := .search (.contains v) k false
    let e : Expr := .group .or [s ['f'] ['a'], .nested ['g'] (s ['k'] ['x']), s ['f'] ['b'],
      .nested ['g'] (s ['k'] ['y']), s ['f'] ['c']]
    shakeOK e = true ∧ (shake0F (shakeFuel e) e).2 = false ∧ xOK e = true ∧ e1OK (shake0 (shakeFuel e) e) = true ∧
      (match shake e with
       | .group .or [.search (.ac ctx _) _ _, .nested _ (.search (.ac c2 _) _ _)] => (ctx.length, c2.length)
       | _ => (0, 0)) = (3, 2) := by
  decide +kernel

/-- Every switch combination that includes coalesce keeps the verdict of a loaded rule.  The side
    conditions are on the coalesced condition (for shake) and on the tree handed to the matrix pass. -/
theorem optimise_verdict (E : RegexEngine) (hL : StripLaw E) (ic : Bool) (src : RuleSrc) (r : Rule)
    (h : loadRule E ic src = .ok r) (hopt : r.optimised = false)
    (shake' rewrite' matrix' : Bool)
    (hs : shake' = true →
      (∀ i ∈ matchIds r.det.expr, ∀ b, lookupId r.det.ids i = some b → matchChildOK b = true) ∧
      xOK (coalesce r.det.ids r.det.expr) = true ∧
      (shake0F (shakeFuel (coalesce r.det.ids r.det.expr)) (coalesce r.det.ids r.det.expr)).2 = false)
    (hm : matrix' = true →
      mOK ((if rewrite' then rewrite E else id)
        ((if shake' then shake else id) (coalesce r.det.ids r.det.expr))) = true)
    (d : Doc) :
    (r.optimise E ⟨true, shake', rewrite', matrix'⟩).matches E d = r.matches E d :=
  optimise_coalesced_verdict E r hopt (loadRule_shape_shakeOK h).1 shake' rewrite' matrix' (fun _ => hL) d
    (fun hs' => congrArg Tri.isT
      (shake_exact E closedK _ (loaded_coalesce_shakeOK h (hs hs').1) (hs hs').2.1 (hs hs').2.2 d)) hm

/-- The matrix theorem is not about the identity: a sequence of two mappings becomes a 2x2 matrix,
    and the tree is in the class. -/
example :
    let s (k : Str) (v : Str) : Expr := .search (.exact v) k false
    let e : Expr := .group .or [.group .and [s ['f'] ['a'], s ['g'] ['b']], .group .and [s ['g'] ['c'], s ['f'] ['d']]]
    mOK e = true ∧
      (match matrixPass e with
       | .matrix cols rows => (cols.length, rows.length)
       | _ => (0, 0)) = (2, 2) := by
  decide +kernel

def noNeg : Expr → Bool
  | .negate _ => false
  | .bin l _ r => noNeg l && noNeg r
  | _ => true

/-- `hn` is a disjunction: equality passes through `not`; `TEq` does not and needs a condition
    without one. -/
theorem pshape_congrK_rel (R : Tri → Tri → Prop) (hrefl : ∀ a, R a a)
    (hand : ∀ {a a' b b'}, R a a' → R b b' → R (binAnd a b) (binAnd a' b'))
    (hor : ∀ {a a' b b'}, R a a' → R b b' → R (binOr a b) (binOr a' b'))
    (E : RegexEngine) (K K' : IdentK) (d : Doc) (c : Expr) (h : PShape c) (hm : matchIds c = [])
    (hn : noNeg c = true ∨ ∀ {a a'}, R a a' → R a.not a'.not) (hi : ∀ i, R (K'.ident i d) (K.ident i d)) :
    R (solveG E K' d c) (solveG E K d c) := by
  -- `solveG` on an identifier, a literal and a `not` unfolds by definition
  induction h with
  | ident i => exact hi i
  | matchIdent k i => cases hm
  | litFloat b => exact hrefl _
  | litInt i => exact hrefl _
  | litCast f m => exact hrefl _
  | negate _ _ ih =>
    rcases hn with hn | hn
    · cases hn
    · exact hn (ih hm (.inr hn))
  | @binBool l r op hop _ _ _ _ ihl ihr =>
    have hm' : matchIds l = [] ∧ matchIds r = [] := List.append_eq_nil_iff.mp hm
    have hn' := hn.imp_left fun h => (Bool.and_eq_true _ _ ▸ h : noNeg l = true ∧ noNeg r = true)
    have hl := ihl hm'.1 (hn'.imp_left And.left)
    have hr := ihr hm'.2 (hn'.imp_left And.right)
    rcases hop with rfl | rfl
    · rw [bin_and_value, bin_and_value]; exact hand hl hr
    · rw [bin_or_value, bin_or_value]; exact hor hl hr
  | cmp l op r h1 h2 hl hr =>
    rw [solveG_bin_cmp E K' d ⟨h1, h2⟩, solveG_bin_cmp E K d ⟨h1, h2⟩]; exact hrefl _

/-- A parsed condition without all(X)/of(X) sees the identifiers only through their results. -/
theorem pshape_congrK (E : RegexEngine) (K K' : IdentK) (d : Doc) (c : Expr) (h : PShape c)
    (hm : matchIds c = []) (hi : ∀ i, K'.ident i d = K.ident i d) :
    solveG E K' d c = solveG E K d c :=
  pshape_congrK_rel Eq (fun _ => rfl) (fun h1 h2 => h1 ▸ h2 ▸ rfl) (fun h1 h2 => h1 ▸ h2 ▸ rfl)
    E K K' d c h hm (.inr fun h => h ▸ rfl) hi

/-- … and, when it holds no negation, only through whether they are true. -/
theorem pshape_congrK_truth (E : RegexEngine) (K K' : IdentK) (d : Doc) (c : Expr) (h : PShape c)
    (hm : matchIds c = []) (hn : noNeg c = true) (hi : ∀ i, K'.ident i d = .t ↔ K.ident i d = .t) :
    solveG E K' d c = .t ↔ solveG E K d c = .t :=
  pshape_congrK_rel TEq TEq.refl TEq.binAnd TEq.binOr
    E K K' d c h hm (.inl hn) hi

theorem optimiseTree_uncoalesced (E : RegexEngine) (s rw m : Bool) (ids : Ids) (e : Expr) :
    optimiseTree E ⟨false, s, rw, m⟩ ids e =
      (optBody E s rw m e, ids.map (fun (p : Str × Expr) => (p.1, optBody E s rw m p.2))) := 
  optimiseTree_eq E ⟨false, s, rw, m⟩ ids e

/-- The switch combinations WITHOUT coalesce (the condition and every identifier
    body are optimised one by one): the verdict is kept, for conditions that do not apply
    all()/of() to an identifier (those count the members of a body, which shake reshapes: the
    recorded match-reshape finding). -/
theorem optimise_verdict_uncoalesced (E : RegexEngine) (hL : StripLaw E) (ic : Bool) (src : RuleSrc) (r : Rule)
    (h : loadRule E ic src = .ok r) (hopt : r.optimised = false)
    (s rw m : Bool)
    (hm : matchIds r.det.expr = [])
    (hs : s = true →
      (shake0F (shakeFuel r.det.expr) r.det.expr).2 = false ∧
      ∀ i b, lookupId r.det.ids i = some b → xOK b = true ∧ (shake0F (shakeFuel b) b).2 = false)
    (hmx : m = true →
      noNeg r.det.expr = true ∧
      mOK ((if rw then rewrite E else id) ((if s then shake else id) r.det.expr)) = true ∧
      ∀ i b, lookupId r.det.ids i = some b →
        mOK ((if rw then rewrite E else id) ((if s then shake else id) b)) = true)
    (d : Doc) :
    (r.optimise E ⟨false, s, rw, m⟩).matches E d = r.matches E d := by
  obtain ⟨hshape, hb⟩ := loadRule_shape_shakeOK h
  have hbody : ∀ i b, lookupId r.det.ids i = some b →
      s = true → solveG E closedK d (shake b) = solveG E closedK d b :=
    fun i b hl hs' => shake_exact E closedK b (hb i b hl) ((hs hs').2 i b hl).1 ((hs hs').2 i b hl).2 d
  unfold Rule.matches
  rw [Rule.optimise_solve E _ hopt, optimiseTree_uncoalesced]
  simp only [Rule.solve, solveTop]
  rw [optBody_verdict E _ s rw m (fun _ => hL) r.det.expr d
    (fun hs' => congrArg Tri.isT
      (shake_exact E _ _ (pshape_shakeOK _ hshape) (pshape_class _ hshape).2.1 (hs hs').1 d))
    (fun hm' => (hmx hm').2.1)]
  -- `matchIds = []`: the condition sees the identifiers through their results only.  With the matrix
  -- pass only their truth survives, which passes through the condition only if it holds no `not`
  -- (`hmx.1`).  `isT_eq_iff` moves between `isT` (rule level) and `TEq` (inside the condition).
  cases m with
  | true =>
    exact (isT_eq_iff _ _).mpr (pshape_congrK_truth E _ _ d _ hshape hm (hmx rfl).1
      (topK_map_ident (R := TEq) Iff.rfl fun i b hl =>
        (isT_eq_iff _ _).mp (optBody_verdict E closedK s rw true (fun _ => hL) b d
          (fun hs' => congrArg Tri.isT (hbody i b hl hs')) (fun _ => (hmx rfl).2.2 i b hl))))
  | false =>
    exact congrArg Tri.isT (pshape_congrK E _ _ d _ hshape hm
      (topK_map_ident (R := Eq) rfl fun i b hl => optBody_exact id E closedK s rw (fun _ => hL) b d (hbody i b hl)))

/-- **shake_1 keeps every verdict** on the negation-free class `e2OK`, which — unlike `e1OK` — lets
    and-groups hold nested mappings: the pass merges those per field into one all()-block and moves
    it behind the other conjuncts, which can swap false and missing (`shake_and_reorder_unsound`)
    but never changes whether the conjunction is true. (It rests on the merge letting a block
    that already is an all()-list contribute its members.) -/
theorem shake1_verdict (E : RegexEngine) (K : IdentK) (fuel : Nat) (e : Expr) (h : e2OK e = true) (d : Doc) :
    (solveG E K d (shake1 fuel e)).isT = (solveG E K d e).isT :=
  (isT_eq_iff _ _).mpr ((shake1_goodT E K fuel e h).2.1 d)

theorem shake1_verdict_closed (fuel : Nat) (e : Expr) (h : e2OK e = true) : e2OK (shake1 fuel e) = true :=
  (shake1_goodT E0 closedK fuel e h).1

theorem shake_verdict (E : RegexEngine) (K : IdentK) (e : Expr) (hok : shakeOK e = true)
    (hfl : (shake0F (shakeFuel e) e).2 = false) (h2 : e2OK (shake0 (shakeFuel e) e) = true) (d : Doc) :
    (solveG E K d (shake e)).isT = (solveG E K d e).isT := by
  unfold shake
  rw [shake1_verdict E K _ _ h2 d, shake0_exact E K _ e hok hfl d]

/-- Every switch combination with coalesce, negation-free rules: as
    `optimise_verdict`, with the shake side condition `xOK` (no nested mapping among the operands of
    an `and`) replaced by `e2OK` of the tree `shake_0` hands to `shake_1` — a mapping may mix nested
    mappings and plain keys. -/
theorem optimise_verdict_positive (E : RegexEngine) (hL : StripLaw E) (ic : Bool) (src : RuleSrc) (r : Rule)
    (h : loadRule E ic src = .ok r) (hopt : r.optimised = false)
    (shake' rewrite' matrix' : Bool)
    (hs : shake' = true →
      (∀ i ∈ matchIds r.det.expr, ∀ b, lookupId r.det.ids i = some b → matchChildOK b = true) ∧
      (shake0F (shakeFuel (coalesce r.det.ids r.det.expr)) (coalesce r.det.ids r.det.expr)).2 = false ∧
      e2OK (shake0 (shakeFuel (coalesce r.det.ids r.det.expr)) (coalesce r.det.ids r.det.expr)) = true)
    (hm : matrix' = true →
      mOK ((if rewrite' then rewrite E else id)
        ((if shake' then shake else id) (coalesce r.det.ids r.det.expr))) = true)
    (d : Doc) :
    (r.optimise E ⟨true, shake', rewrite', matrix'⟩).matches E d = r.matches E d := by
  exact optimise_coalesced_verdict E r hopt (loadRule_shape_shakeOK h).1 shake' rewrite' matrix' (fun _ => hL) d
    (fun hs' => shake_verdict E closedK _
      (loaded_coalesce_shakeOK h (hs hs').1) (hs hs').2.1 (hs hs').2.2 d) hm

/-- Not vacuous: a mapping that mixes two nested mappings on one field with a plain key is in the
    class, and shake_1 really merges the two blocks and moves them behind the plain conjunct. -/
example :
    let s (k : Str) (v : Str) : Expr := .search (.exact v) k false
    let e : Expr := .group .and [.nested ['f'] (s ['k'] ['a']), s ['g'] ['b'], .nested ['f'] (s ['j'] ['c'])]
    e2OK e = true ∧
      (match shake1 6 e with
       | .group .and [.search _ _ _, .nested _ (.match .all (.group .or ms))] => ms.length
       | _ => 0) = 2 := by
  decide +kernel

end Tau.C01
