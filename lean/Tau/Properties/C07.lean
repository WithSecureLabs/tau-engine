import Tau.Proofs.Batch
/-
  C07 — String predicates are exact for all strings, single or batched.
-/
namespace Tau.C07
open Tau

theorem isInfixOf_iff (n h : Str) : isInfixOf n h = true ↔ ∃ a b, h = a ++ n ++ b := by
  refine Iff.trans ?_ (exists_congr fun _ => exists_congr fun _ => eq_comm : n <:+: h ↔ _)
  induction h with
  | nil =>
    rw [isInfixOf, List.isEmpty_iff]
    exact List.infix_nil.symm
  | cons x t ih =>
    rw [isInfixOf, Bool.or_eq_true, ih, List.isPrefixOf_iff_prefix]
    exact List.infix_cons_iff.symm

/-- The relation of one member of an automaton. -/
def RelMT (ci : Bool) (mt : MatchType) (h : Str) : Prop :=
  match mt with
  | .contains n => ∃ a b, foldCase ci h = a ++ foldCase ci n ++ b
  | .endsWith n => ∃ t, foldCase ci h = t ++ foldCase ci n
  | .exact n => foldCase ci n = foldCase ci h
  | .startsWith n => ∃ t, foldCase ci h = foldCase ci n ++ t

theorem relMT_iff (ci : Bool) (mt : MatchType) (h : Str) : relMT ci mt h = true ↔ RelMT ci mt h := by
  cases mt with
  | contains n => exact isInfixOf_iff _ _
  | endsWith n => exact List.isSuffixOf_iff_suffix.trans (exists_congr fun _ => eq_comm)
  | exact n => exact beq_iff_eq
  | startsWith n => exact List.isPrefixOf_iff_prefix.trans (exists_congr fun _ => eq_comm)

theorem search_lit_iff (E : RegexEngine) (mt : MatchType) (h : Str) :
    searchStr E (searchOfMatchType mt) h = true ↔ RelMT false mt h :=
  relMT_false mt E h ▸ relMT_iff false mt h

/-- Plain text: equality. -/
theorem search_exact (E : RegexEngine) (n h : Str) : searchStr E (.exact n) h = true ↔ n = h :=
  search_lit_iff E (.exact n) h

/-- `x*`: prefix. -/
theorem search_starts (E : RegexEngine) (n h : Str) :
    searchStr E (.startsWith n) h = true ↔ ∃ t, h = n ++ t :=
  search_lit_iff E (.startsWith n) h

/-- `*x`: suffix. -/
theorem search_ends (E : RegexEngine) (n h : Str) :
    searchStr E (.endsWith n) h = true ↔ ∃ t, h = t ++ n :=
  search_lit_iff E (.endsWith n) h

/-- `*x*`: substring. -/
theorem search_contains (E : RegexEngine) (n h : Str) :
    searchStr E (.contains n) h = true ↔ ∃ a b, h = a ++ n ++ b :=
  search_lit_iff E (.contains n) h

/-- `*`: any string. -/
theorem search_any (E : RegexEngine) (h : Str) : searchStr E .any h = true := rfl

/-- `?re`: unanchored regex search with the case flag, as answered by the regex engine. -/
theorem search_regex (E : RegexEngine) (p h : Str) (ci : Bool) :
    searchStr E (.regex p ci) h = E.isMatch p ci h := rfl

/-- A batched automaton matches exactly when at least one member would match on its own — for
    every list of members, of any kinds, in any order (the `i` flag folds ASCII case on both
    sides). -/
theorem search_ac_iff (E : RegexEngine) (ctx : List MatchType) (ci : Bool) (h : Str) :
    searchStr E (.ac ctx ci) h = true ↔ ∃ mt ∈ ctx, RelMT ci mt h := by
  simp only [searchStr, List.any_eq_true]
  constructor
  · rintro ⟨mt, hm, hr⟩; exact ⟨mt, hm, (relMT_iff ci mt h).mp hr⟩
  · rintro ⟨mt, hm, hr⟩; exact ⟨mt, hm, (relMT_iff ci mt h).mpr hr⟩

/-- A regex set matches exactly when one of its members matches. -/
theorem search_set_iff (E : RegexEngine) (ps : List Str) (ci : Bool) (h : Str) :
    searchStr E (.regexSet ps ci) h = true ↔ ∃ p ∈ ps, E.isMatch p ci h = true := by
  simp [searchStr, List.any_eq_true]

/-- Case folding is ASCII only: a non-ASCII letter is compared as written. -/
example : relMT true (.exact ['Ä']) ['Ä'] = true ∧ relMT true (.exact ['Ä']) ['ä'] = false ∧
    relMT true (.exact ['a', 'b']) ['A', 'B'] = true := by decide

/-- Surrounding quotes make the text literal. -/
example (E : RegexEngine) :
    intoIdentifier E false "'a*'".toList = .ok ⟨false, .exact "a*".toList⟩ ∧
    intoIdentifier E false "\"?x\"".toList = .ok ⟨false, .exact "?x".toList⟩ := by
  -- the simproc spells the literals out; left to `rfl`, the elaborator decodes them byte by byte
  dsimp only [String.reduceToList]
  exact ⟨rfl, rfl⟩

/-- Shapes of the literal patterns (default build, no `i`): `x*`, `*x`, `*x*`, `*`, plain. -/
theorem literal_shapes (w : Str) (hw : ∀ c ∈ w, c ≠ '*' ∧ c ≠ '"' ∧ c ≠ '\'') (hne : w ≠ []) :
    literalPattern false (w ++ ['*']) = .startsWith w ∧
    literalPattern false ('*' :: w) = .endsWith w ∧
    literalPattern false ('*' :: (w ++ ['*'])) = .contains w ∧
    literalPattern false ['*'] = .any ∧
    literalPattern false w = .exact w := by
  have hl : lastIs w '*' = false := lastIs_of_not_mem fun hm => (hw _ hm).1 rfl
  obtain ⟨c, cs, rfl⟩ := List.exists_cons_of_ne_nil hne
  obtain ⟨hc, hq, hq'⟩ := hw c (by simp)
  -- the last character of `x :: w` is that of `w`
  have hl' : lastIs ('*' :: c :: cs) '*' = false := hl
  refine ⟨?_, ?_, ?_, rfl, ?_⟩
  · simp [literalPattern, lastIs, List.getLast?_cons, dropLast, hc, foldIf]
  · simp [literalPattern, hl', foldIf]
  · simp [literalPattern, lastIs, List.getLast?_cons, dropLast, foldIf]
  · simp [literalPattern, hc, hq, hq', hl, foldIf]

/-- A case-sensitive automaton, at the level of the three-valued solver (missing field, scalar,
    array, wrong kind): the `or` of its members as single searches. -/
theorem automaton_is_or_of_members (E : RegexEngine) (d : Doc) (ctx : List MatchType) (hne : ctx ≠ [])
    (f : Str) (c : Bool) :
    solveSearch E d (.ac ctx false) f c =
      Tri.or (ctx.map (fun mt => solveSearch E d (searchOfMatchType mt) f c)) := ac_or E d ctx hne f c

theorem iautomaton_is_or_of_members (E : RegexEngine) (d : Doc) (ctx : List MatchType) (hne : ctx ≠ [])
    (f : Str) (c : Bool) :
    solveSearch E d (.ac ctx true) f c =
      Tri.or (ctx.map (fun mt => solveSearch E d (.ac [mt] true) f c)) := iac_or E d ctx hne f c

theorem regex_set_is_or_of_members (E : RegexEngine) (d : Doc) (ps : List Str) (ci : Bool) (hne : ps ≠ [])
    (f : Str) (c : Bool) :
    solveSearch E d (.regexSet ps ci) f c =
      Tri.or (ps.map (fun p => solveSearch E d (.regex p ci) f c)) := set_or E d ps ci hne f c

/-- However the sequence branch of `parse_mapping` batches what the member loop collected
    (automaton per case flag, regex set per case flag, lone members unbatched), the resulting group
    has the value of the members evaluated one by one. -/
theorem batching_invisible (E : RegexEngine) (K : IdentK) (d : Doc) (st : SeqSt) (hwf : st.WF) (f : Str) :
    V E K d (batchMembers st f).1 = V E K d (unbatched st f) := batch_or E K d st hwf f

/-- **A list of patterns on one field matches exactly when at least one member would match on
    its own** — as a three-valued result, for every list (strings of every pattern kind and case
    flag, numbers, booleans, null, nested mappings), every document and field value: the value of
    `f: [v1, .., vn]` is the `or` of the values of `f: [vi]`. -/
theorem list_is_or_of_members (E : RegexEngine) (ic : Bool) (f : Str) (s : List Yaml) (x : Expr)
    (h : parseVal E ic (.field f) f none (.seq s) = .ok x) (K : IdentK) (d : Doc) :
    solveG E K d x =
      Tri.or (s.map (fun v => V E K d (memberAlone E ic f none (.field f) v))) := by
  obtain ⟨y, rfl, hy⟩ := seq_value E K d (fun _ _ hm => Expr.noConfusion hm) h
  exact hy

/-- … and `f: [v]` is what `f: v` means: a member taken alone is the entry the scalar branch of
    `parse_mapping` builds for it. -/
theorem member_alone_is_entry (E : RegexEngine) (ic : Bool) (f : Str) (v : Yaml) (y : Expr)
    (hv : v.isSeq = false) (h : parseVal E ic (.field f) f none v = .ok y) :
    memberAlone E ic f none (.field f) v = [y] := by
  -- both sides compute (for a string once the kind of its pattern is known): `parseVal` to `.ok` of
  -- the entry, `memberAlone` to the list of it
  cases v with
  | seq xs => cases hv
  | tagged => cases h
  | null | bool b => cases h; rfl
  | num n => cases n <;> cases h <;> rfl
  | map m =>
    obtain ⟨z, hz, rfl⟩ := parseVal_map_ok h
    simp only [memberAlone, memberDelta, Option.isSome_none, Bool.false_eq_true, if_false, hz]
    rfl
  | str s =>
    simp only [parseVal] at h
    simp only [memberAlone, memberDelta]
    cases hid : intoIdentifier E ic s with
    | error e => rw [hid] at h; cases h
    | ok ident =>
      rw [hid] at h
      -- the scalar branch and `unbatchOne` both go through `searchOfPattern ident.ci`; a number goes
      -- through `numExpr` there and is the one entry of `rest` here
      obtain ⟨ci, pat⟩ := ident
      cases pat <;> cases h <;> rfl

end Tau.C07
