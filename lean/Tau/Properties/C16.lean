import Tau.Proofs.TraceKeys
/-
  C16 — Matching reads only the fields the rule names.
-/
namespace Tau.C16
open Tau

/-- All keys a rule names at the top level: those of the condition and of every identifier body. -/
def ruleKeys (ids : Ids) (e : Expr) : List Str := keysOf e ++ ids.flatMap (fun p => keysOf p.2)

/-- Closed trees (identifier bodies, coalesced rules): the result is unchanged by any change to
    the document outside the keys the tree names. -/
theorem frame_closed (E : RegexEngine) (d d' : Doc) (e : Expr) (h : Agree d d' (keysOf e)) :
    solveClosed E d e = solveClosed E d' e :=
  solveG_agree E closedK d d' (fun _ => rfl) (fun _ _ => rfl) e h

theorem lookup_keys (ids : Ids) (i : Str) (b : Expr) (h : lookupId ids i = some b) :
    ∀ k ∈ keysOf b, k ∈ ids.flatMap (fun p => keysOf p.2) :=
  fun _ hk => List.mem_flatMap.mpr ⟨_, lookupId_mem h, hk⟩

/-- **Frame theorem for rules**: adding, removing or altering any document field that no predicate
    of the rule addresses leaves the three-valued result — hence the verdict — unchanged. The
    document is anything with a `find` (a mapping, or an arbitrary user `Document`). -/
theorem frame_rule (E : RegexEngine) (ids : Ids) (d d' : Doc) (e : Expr)
    (h : Agree d d' (ruleKeys ids e)) : solveTop E ids d e = solveTop E ids d' e := by
  have hids : Agree d d' (ids.flatMap (fun p => keysOf p.2)) := h.mono (List.subset_append_right _ _)
  have hbody : ∀ i b, lookupId ids i = some b → Agree d d' (keysOf b) :=
    fun i b hb => hids.mono (lookup_keys ids i b hb)
  obtain ⟨hKi, hKm⟩ := topK_eq (fun i b hl => frame_closed E d d' b (hbody i b hl))
    (fun k i b hl => frame_closed E d d' (.match k b) (hbody i b hl))
  exact solveG_agree E (topK E ids) d d' hKi hKm e
    (h.mono (List.subset_append_left _ _))

theorem verdict_frame (E : RegexEngine) (ids : Ids) (d d' : Doc) (e : Expr)
    (h : Agree d d' (ruleKeys ids e)) : matchesTop E ids d e = matchesTop E ids d' e := by
  unfold matchesTop; rw [frame_rule E ids d d' e h]

theorem frame_user (E : RegexEngine) (ids : Ids) (g g' : Str → Option Value) (e : Expr)
    (h : ∀ k ∈ ruleKeys ids e, g k = g' k) : solveTop E ids (.user g) e = solveTop E ids (.user g') e :=
  frame_rule E ids (.user g) (.user g') e (fun k hk => h k hk)

/-- The synthetic keys of a matrix are asked of the private cache only: the keys a matrix names
    to the document are its real column names. -/
theorem matrix_keys (cols : List Str) (rows : List (List (Option Expr))) :
    keysOf (.matrix cols rows) = cols := rfl

theorem nested_keys (f : Str) (e : Expr) : keysOf (.nested f e) = [f] := rfl

/-- Non-vacuity: a document with and without an unaddressed field. -/
example :
    let e : Expr := .group .and [.search (.exact ['x']) ['a'] false, .nested ['o'] (.search .any ['k'] false)]
    Agree (.obj [(['a'], .str ['x'])]) (.obj [(['a'], .str ['x']), (['z'], .uint 1)]) (keysOf e) := by
  intro e k hk
  have hk : k ∈ [['a'], ['o']] := hk
  rcases hk with _ | ⟨_, _ | ⟨_, ⟨⟩⟩⟩ <;> rfl

/-- Identifier bodies and coalesced rules: every key asked of the document is named by the tree. -/
theorem trace_closed_subset (E : RegexEngine) (d : Doc) (e : Expr) :
    ∀ k ∈ traceClosed E d e, k ∈ keysOf e :=
  fun _ hk => traceG_sub (fun _ => List.nil_subset _) (fun _ _ => List.nil_subset _) (.refl _) hk

/-- **While matching, the engine asks the document only for keys written in the rule**: every key
    in the trace of a rule evaluation is a key the condition or one of the identifier bodies names
    at its own level (a nested block names only its own key; a matrix names its real column names —
    the synthetic one-character keys never reach the document). The trace of the model is compared
    with the recording `Document` of the harness on every generated case. -/
theorem trace_subset (E : RegexEngine) (ids : Ids) (d : Doc) (e : Expr) :
    ∀ k ∈ traceTop E ids d e, k ∈ ruleKeys ids e := by
  -- both continuations of `topT` trace a body `w b` that names the keys of `b`
  have lift : ∀ (w : Expr → Expr), (∀ b, keysOf (w b) = keysOf b) → ∀ i,
      (match lookupId ids i with | some b => traceClosed E d (w b) | none => []) ⊆ ruleKeys ids e := by
    intro w hw i
    cases hl : lookupId ids i with
    | none => exact List.nil_subset _
    | some b =>
      exact fun k hk => List.mem_append_right _
        (lookup_keys ids i b hl k (hw b ▸ trace_closed_subset E d (w b) k hk))
  exact fun _ hk => traceG_sub (lift id fun _ => rfl) (fun m => lift (.match m) fun _ => rfl)
    (List.subset_append_left _ _) hk

end Tau.C16
