import Tau.Proofs.Solver
/-
  C10 — Field paths resolve to exactly the addressed value.
-/
namespace Tau.C10
open Tau

/-- One step of a structured path: a name, optionally followed by an array index. -/
structure Step where
  name : Str
  idx : Option Nat
  idxText : Str          -- the digits written for the index (unused when `idx = none`)

/-- Structural resolution: descend objects by name, arrays by index. Nothing else. -/
def resolveStep (cur : Value) (s : Step) : Option Value :=
  match cur with
  | .obj kvs =>
    match s.idx with
    | none => getKey kvs s.name
    | some i =>
      match getKey kvs s.name with
      | some (.arr a) => a[i]?
      | _ => none
  | _ => none

def resolve : Value → List Step → Option Value
  | v, [] => some v
  | v, s :: rest =>
    match resolveStep v s with
    | some v' => resolve v' rest
    | none => none

/-- How a step is written in a key. -/
def renderStep (s : Step) : Str :=
  match s.idx with
  | none => s.name
  | some _ => s.name ++ ['['] ++ s.idxText ++ [']']

/-- A step is well formed: its name contains none of `. [ ]`, and the index text, if there is
    one, contains none of them either and parses to the index.  (The lemmas use the `[` part
    only; that a dotted key splits back into its steps is a hypothesis of `find_resolve`.) -/
def Step.WF (s : Step) : Prop :=
  (∀ c ∈ s.name, c ≠ '.' ∧ c ≠ '[' ∧ c ≠ ']') ∧
  (match s.idx with
   | none => True
   | some i => parseUsize s.idxText = some i ∧ (∀ c ∈ s.idxText, c ≠ '.' ∧ c ≠ '[' ∧ c ≠ ']'))

theorem getLast?_append_singleton {α} (xs : List α) (x : α) : (xs ++ [x]).getLast? = some x := by
  simp

/-- A separator-free prefix joins the first piece. -/
theorem splitOn_prefix (c : Char) (a r p : Str) (ps : List Str) (h : ∀ x ∈ a, x ≠ c)
    (hr : splitOn c r = p :: ps) : splitOn c (a ++ r) = (a ++ p) :: ps := by
  induction a with
  | nil => exact hr
  | cons x xs ih =>
    have hx : (x == c) = false := by simpa using h x (by simp)
    have := ih (fun y hy => h y (by simp [hy]))
    simp [splitOn, hx, this]

theorem splitOn_no_sep (c : Char) (s : Str) (h : ∀ x ∈ s, x ≠ c) : splitOn c s = [s] := by
  simpa using splitOn_prefix c s [] [] [] h rfl

theorem splitOn_append (c : Char) (a b : Str) (h : ∀ x ∈ a, x ≠ c) :
    splitOn c (a ++ c :: b) = a :: splitOn c b := by
  simpa using splitOn_prefix c a (c :: b) [] (splitOn c b) h (by simp [splitOn])

theorem segIndex_none (k : Str) (h : '[' ∉ k) : segIndex k = none := by
  simp [segIndex, h]

theorem segIndex_plain (s : Step) (h : s.WF) (hi : s.idx = none) : segIndex (renderStep s) = none := by
  simp only [renderStep, hi]
  exact segIndex_none _ fun hm => (h.1 _ hm).2.1 rfl

theorem segIndex_bracket (name text : Str) (hname : ∀ c ∈ name, c ≠ '[') (htext : ∀ c ∈ text, c ≠ '[') :
    segIndex (name ++ ['['] ++ text ++ [']']) = some (name, parseUsize text) := by
  have e : name ++ ['['] ++ text ++ [']'] = name ++ '[' :: (text ++ [']']) := by simp
  have hsplit : splitOn '[' (name ++ '[' :: (text ++ [']'])) = [name, text ++ [']']] := by
    rw [splitOn_append _ _ _ hname, splitOn_no_sep]
    intro x hx
    rcases List.mem_append.mp hx with hx | hx
    · exact htext x hx
    · cases List.mem_singleton.mp hx; decide
  rw [e]
  unfold segIndex
  rw [hsplit]
  simp [List.getLast?_append, List.getLast?_cons]

theorem segIndex_indexed (s : Step) (h : s.WF) (i : Nat) (hi : s.idx = some i) :
    segIndex (renderStep s) = some (s.name, some i) := by
  obtain ⟨hname, hidx⟩ := h
  simp only [hi] at hidx
  simp only [renderStep, hi]
  rw [segIndex_bracket _ _ (fun c hc => (hname c hc).2.1) (fun c hc => (hidx.2 c hc).2.1), hidx.1]

theorem findStep_plain (kvs : List (Str × Value)) (f : Str) (hf : '[' ∉ f) :
    findStep kvs f = getKey kvs f := by
  unfold findStep
  rw [segIndex_none f hf]

theorem findStep_eq (kvs : List (Str × Value)) (s : Step) (h : s.WF) :
    findStep kvs (renderStep s) = resolveStep (.obj kvs) s := by
  unfold findStep resolveStep
  cases hi : s.idx with
  | none =>
    rw [segIndex_plain s h hi]
    simp [renderStep, hi]
  | some i =>
    rw [segIndex_indexed s h i hi]
    simp only []
    cases getKey kvs s.name with
    | none => rfl
    | some v => cases v <;> rfl

theorem findSegs_eq (v : Value) (p : List Step) (h : ∀ s ∈ p, s.WF) :
    findSegs v (p.map renderStep) = resolve v p := by
  induction p generalizing v with
  | nil => cases v <;> rfl
  | cons s rest ih =>
    cases v with
    | obj kvs =>
      simp only [List.map_cons, findSegs, resolve]
      rw [findStep_eq kvs s (h s (by simp))]
      cases hr : resolveStep (.obj kvs) s with
      | none => rfl
      | some v' => exact ih v' (fun t ht => h t (by simp [ht]))
    | _ => simp [findSegs, resolve, resolveStep]

/-- **find resolves exactly the addressed value.** For a well-formed path written with `.` between
    its steps, `find` returns what structural descent returns — in particular `none` as soon as a
    step does not exist or has the wrong shape; nothing is fabricated from another key, a shorter
    path or a different index. -/
theorem find_resolve (kvs : List (Str × Value)) (p : List Step)
    (h : ∀ s ∈ p, s.WF) (hs : splitOn '.' (['.'].intercalate (p.map renderStep)) = p.map renderStep) :
    objFind kvs (['.'].intercalate (p.map renderStep)) = resolve (.obj kvs) p := by
  unfold objFind
  rw [hs]
  exact findSegs_eq _ p h

/-- An ill-formed key is simply missing. -/
example : objFind [(['a'], .arr [.uint 1])] "a[x]".toList = none ∧
    objFind [(['a'], .arr [.uint 1])] "a[0]".toList = some (.uint 1) ∧
    objFind [(['a'], .obj []), (['c'], .uint 1)] "a.b.c".toList = none := by
  -- the simproc spells the literals out; left to `rfl`, the elaborator decodes them byte by byte
  dsimp only [String.reduceToList]
  exact ⟨rfl, rfl, rfl⟩

/-- A nested mapping over an object is the block evaluated on that object. -/
theorem nested_object (E : RegexEngine) (K : IdentK) (d : Doc) (f : Str) (kvs : List (Str × Value))
    (s : Search) (k : Str) (c : Bool) (h : d.find f = some (.obj kvs)) :
    solveG E K d (.nested f (.search s k c)) = solveG E K (.obj kvs) (.search s k c) :=
  Tau.nested_object E K d f _ kvs h

/-- Nested mapping = dotted key whenever the intermediate value is an object (leaf = a string
    predicate on a plain key). -/
theorem nested_eq_dotted (E : RegexEngine) (K : IdentK) (doc : List (Str × Value)) (f k : Str)
    (inner : List (Str × Value)) (s : Search) (c : Bool)
    (hf : ∀ x ∈ f, x ≠ '.' ∧ x ≠ '[' ∧ x ≠ ']') (hk : ∀ x ∈ k, x ≠ '.' ∧ x ≠ '[' ∧ x ≠ ']')
    (h : getKey doc f = some (.obj inner)) :
    solveG E K (.obj doc) (.nested f (.search s k c)) = solveG E K (.obj doc) (.search s (f ++ '.' :: k) c) := by
  have hbr : '[' ∉ f := fun hm => (hf _ hm).2.1 rfl
  have hfind : (Doc.obj doc).find f = some (.obj inner) := by
    simp only [Doc.find, objFind, splitOn_no_sep _ _ (fun x hx => (hf x hx).1), findSegs, findStep_plain doc f hbr, h]
  have hfind2 : (Doc.obj doc).find (f ++ '.' :: k) = (Doc.obj inner).find k := by
    simp only [Doc.find, objFind, splitOn_append _ _ _ (fun x hx => (hf x hx).1), findSegs, findStep_plain doc f hbr, h]
  rw [nested_object E K _ f inner s k c hfind]
  simp only [solveG, solveSearch, hfind2]

/-- A nested mapping over an array of objects means "some element satisfies it" (for a block that
    is not an `all` group — that exception is the recorded finding about `all(k)` inside a nested
    block). -/
theorem nested_array_exists (E : RegexEngine) (K : IdentK) (d : Doc) (f : Str) (a : List Value)
    (s : Search) (k : Str) (c : Bool) (h : d.find f = some (.arr a)) :
    solveG E K d (.nested f (.search s k c)) =
      Tri.ofBool ((elemObjs a).any (fun kvs => solveG E K (.obj kvs) (.search s k c) == .t)) := by
  rw [nested_generic E K d f _ rfl, h]

/-- A missing intermediate field makes the nested block missing. -/
theorem nested_missing (E : RegexEngine) (K : IdentK) (d : Doc) (f : Str) (s : Search) (k : Str) (c : Bool)
    (h : d.find f = none) : solveG E K d (.nested f (.search s k c)) = .m :=
  Tau.nested_missing E K d f _ h

/-! `name[i]` reads its index with `usize::from_str`: text that is not a (64-bit) unsigned number — a
sign other than `+`, a non-digit, no digits at all, a value of 2^64 or more — names no element, and
the whole lookup is missing. No wrap-around onto another index: a digit loop that wraps at 2^64
would read `a[18446744073709551616]` as `a[0]`. -/

theorem segIndex_bad_index (name text : Str)
    (hname : ∀ c ∈ name, c ≠ '.' ∧ c ≠ '[' ∧ c ≠ ']') (htext : ∀ c ∈ text, c ≠ '.' ∧ c ≠ '[' ∧ c ≠ ']')
    (hp : parseUsize text = none) :
    segIndex (name ++ ['['] ++ text ++ [']']) = some (name, none) := by
  rw [segIndex_bracket _ _ (fun c hc => (hname c hc).2.1) (fun c hc => (htext c hc).2.1), hp]

theorem findStep_bad_index (kvs : List (Str × Value)) (name text : Str) (hname : ∀ c ∈ name, c ≠ '[')
    (htext : ∀ c ∈ text, c ≠ '[') (hp : parseUsize text = none) :
    findStep kvs (name ++ ['['] ++ text ++ [']']) = none := by
  unfold findStep
  rw [segIndex_bracket name text hname htext, hp]

/-- **Such a step resolves to nothing**, whatever the object holds under `name` — in particular it
    never falls back to element 0, to the array itself or to a key spelled like the segment. -/
theorem bad_index_missing (kvs : List (Str × Value)) (name text : Str)
    (hname : ∀ c ∈ name, c ≠ '.' ∧ c ≠ '[' ∧ c ≠ ']') (htext : ∀ c ∈ text, c ≠ '.' ∧ c ≠ '[' ∧ c ≠ ']')
    (hp : parseUsize text = none) :
    findStep kvs (name ++ ['['] ++ text ++ [']']) = none :=
  findStep_bad_index kvs name text (fun c hc => (hname c hc).2.1) (fun c hc => (htext c hc).2.1) hp

/-- Index text of 2^64 or more does not parse: `parseUsize` refuses every digit string whose value
    exceeds u64::MAX. -/
theorem parseUsize_overflow (ds : Str) (h1 : ds.isEmpty = false) (h2 : ds.all isAsciiDigit = true)
    (h3 : u64Max < digitsVal ds) (h4 : ds.head? ≠ some '+') : parseUsize ds = none := by
  cases ds with
  | nil => simp at h1
  | cons c r =>
    have hc : c ≠ '+' := by simpa using h4
    unfold parseUsize
    split
    · next heq => cases heq; exact absurd rfl hc
    · simp [h2, Nat.not_le.mpr h3]

example : parseUsize "18446744073709551616".toList = none ∧ parseUsize "-1".toList = none ∧
    parseUsize "1.0".toList = none ∧ parseUsize "".toList = none ∧
    parseUsize "18446744073709551615".toList = some 18446744073709551615 ∧
    parseUsize "+1".toList = some 1 ∧ parseUsize "007".toList = some 7 := by decide +kernel

example : objFind [(['a'], .arr [.str ['z'], .str ['o']])] "a[18446744073709551616]".toList = none ∧
    objFind [(['a'], .arr [.str ['z'], .str ['o']])] "a[2]".toList = none ∧
    objFind [(['a'], .arr [.str ['z'], .str ['o']])] "a[1]".toList = some (.str ['o']) := by
  dsimp only [String.reduceToList]
  exact ⟨rfl, rfl, rfl⟩

end Tau.C10
