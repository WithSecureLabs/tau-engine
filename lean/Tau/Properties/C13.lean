import Tau.Properties.C03
/-
  C13 — validate() agrees with matches() on the rule's own examples.
-/
namespace Tau.C13
open Tau

def tpOk (E : RegexEngine) (r : Rule) (y : Yaml) : Prop :=
  ∃ d, yamlDoc? y = some d ∧ r.matches E d = true

def tnOk (E : RegexEngine) (r : Rule) (y : Yaml) : Prop :=
  ∃ d, yamlDoc? y = some d ∧ r.matches E d = false

/-- The indices `validateFailures` reports for one list of examples, `bad d` being the verdict that
    makes a mapping example fail. -/
def failing (ys : List Yaml) (bad : Doc → Bool) : List Nat :=
  (List.range ys.length).filter fun i =>
    match ys[i]? with
    | some y => (match yamlDoc? y with | some d => bad d | none => true)
    | none => false

theorem mem_failing_iff (ys : List Yaml) (bad : Doc → Bool) (i : Nat) :
    i ∈ failing ys bad ↔ ∃ y, ys[i]? = some y ∧ ¬ ∃ d, yamlDoc? y = some d ∧ bad d = false := by
  rw [failing, List.mem_filter, List.mem_range]
  cases hy : ys[i]? with
  | none => simp
  | some y =>
    have := (List.getElem?_eq_some_iff.mp hy).1
    cases hd : yamlDoc? y <;> simp [this, hd]

theorem failing_nil_iff (ys : List Yaml) (bad : Doc → Bool) :
    failing ys bad = [] ↔ ∀ y ∈ ys, ∃ d, yamlDoc? y = some d ∧ bad d = false := by
  rw [List.eq_nil_iff_forall_not_mem]
  simp only [mem_failing_iff]
  constructor
  · intro h y hy
    obtain ⟨i, hi⟩ := List.mem_iff_getElem?.mp hy
    exact Classical.not_not.mp fun hn => h i ⟨y, hi, hn⟩
  · rintro h i ⟨y, hi, hn⟩
    exact hn (h y (List.mem_of_getElem? hi))

/-- The true-positive indices `validate()` names are exactly the examples that are not a matching
    mapping — for optimised and unoptimised rules alike (`r` is any rule value). -/
theorem tp_failure_iff (E : RegexEngine) (r : Rule) (i : Nat) :
    i ∈ (r.validateFailures E).1 ↔ ∃ y, r.tps[i]? = some y ∧ ¬ tpOk E r y := by
  have h := mem_failing_iff r.tps (fun d => !r.matches E d) i
  simp only [Bool.not_eq_false'] at h
  exact h

theorem tn_failure_iff (E : RegexEngine) (r : Rule) (i : Nat) :
    i ∈ (r.validateFailures E).2 ↔ ∃ y, r.tns[i]? = some y ∧ ¬ tnOk E r y :=
  mem_failing_iff r.tns (fun d => r.matches E d) i

/-- `validate()` succeeds exactly when every true positive is a mapping that matches and every
    true negative is a mapping that does not match, with the verdicts `matches()` gives. -/
theorem validate_ok_iff (E : RegexEngine) (r : Rule) :
    r.validateOk E = true ↔ (∀ y ∈ r.tps, tpOk E r y) ∧ (∀ y ∈ r.tns, tnOk E r y) := by
  have h1 := failing_nil_iff r.tps (fun d => !r.matches E d)
  have h2 := failing_nil_iff r.tns (fun d => r.matches E d)
  simp only [Bool.not_eq_false'] at h1
  simp only [Rule.validateOk, Rule.validateFailures, Bool.and_eq_true, List.isEmpty_iff]
  exact and_congr h1 h2

/-- A malformed example (not a mapping) is always reported. -/
theorem non_mapping_tp_reported (E : RegexEngine) (r : Rule) (i : Nat) (y : Yaml)
    (hy : r.tps[i]? = some y) (hm : yamlDoc? y = none) : i ∈ (r.validateFailures E).1 :=
  (tp_failure_iff E r i).mpr ⟨y, hy, by rintro ⟨d, hd, _⟩; rw [hm] at hd; cases hd⟩

theorem non_mapping_tn_reported (E : RegexEngine) (r : Rule) (i : Nat) (y : Yaml)
    (hy : r.tns[i]? = some y) (hm : yamlDoc? y = none) : i ∈ (r.validateFailures E).2 :=
  (tn_failure_iff E r i).mpr ⟨y, hy, by rintro ⟨d, hd, _⟩; rw [hm] at hd; cases hd⟩

/-- The verdict `validate()` uses is the one `matches()` gives: true only for a true condition. -/
theorem matches_iff (E : RegexEngine) (r : Rule) (d : Doc) :
    r.matches E d = true ↔ r.solve E d = .t :=
  Tri.isT_iff _

/-- Non-vacuity: a scalar example is not a document. -/
example : yamlDoc? (.num (.int 5)) = none ∧ (yamlDoc? (.map [])).isSome = true := by
  constructor <;> rfl

theorem optimise_examples (E : RegexEngine) (sw : Switches) (r : Rule) :
    (r.optimise E sw).tps = r.tps ∧ (r.optimise E sw).tns = r.tns := by
  unfold Rule.optimise
  split <;> simp

/-- **validate() of an optimised rule** (any of the 16 switch combinations) succeeds exactly when
    every true positive of the rule is a mapping that the OPTIMISED rule matches and every true
    negative is a mapping it does not match — the same verdicts `matches()` gives on that rule. -/
theorem validate_optimised_ok_iff (E : RegexEngine) (sw : Switches) (r : Rule) :
    (r.optimise E sw).validateOk E = true ↔
      (∀ y ∈ r.tps, tpOk E (r.optimise E sw) y) ∧ (∀ y ∈ r.tns, tnOk E (r.optimise E sw) y) := by
  have h := validate_ok_iff E (r.optimise E sw)
  rw [(optimise_examples E sw r).1, (optimise_examples E sw r).2] at h
  exact h

/-- Wherever optimisation keeps the verdicts (C01's theorems say when), validate() reports exactly
    the same failing examples before and after. -/
theorem validate_optimise_agree (E : RegexEngine) (sw : Switches) (r : Rule)
    (h : ∀ d, (r.optimise E sw).matches E d = r.matches E d) :
    (r.optimise E sw).validateFailures E = r.validateFailures E := by
  unfold Rule.validateFailures
  simp only [(optimise_examples E sw r).1, (optimise_examples E sw r).2, h]

/-- **validate() never reaches a panic site**: for a rule that loaded, on any example that is a
    mapping (whatever it holds); an example that is not a mapping is not evaluated at all but
    reported (`non_mapping_*_reported`). -/
theorem validate_never_panics (E : RegexEngine) (ic : Bool) (src : RuleSrc) (r : Rule)
    (h : loadRule E ic src = .ok r) (y : Yaml) (d : Doc) (hd : yamlDoc? y = some d) :
    hitsTop E r.det.ids d r.det.expr = false :=
  (C03.SafeRule.loaded (loadRule_det h)).never_panics E d (C03.noFP_yamlDoc hd)

end Tau.C13
