import Tau.Proofs.Solver
/-
  C06 — Three-valued connectives obey their truth tables.

  The tables are the declarative definitions `Tri.or`, `Tri.and`, `Tri.not`, `Tri.ofN` in
  Tau/Base.lean (stated with `any`, `find?`, `countP`, i.e. not by recursion over the operands).
  Each theorem holds for EVERY arity, every identifier continuation `K` (so for conditions and for
  identifier bodies alike), every regex engine and every document.
-/
namespace Tau.C06
open Tau

/-- Grouped `or`: true if any operand is true, else false if any is false, else missing. -/
theorem solve_group_or (E : RegexEngine) (K : IdentK) (d : Doc) (es : List Expr) :
    solveG E K d (.group .or es) = Tri.or (es.map (solveG E K d)) :=
  group_or_value E K d es

/-- Grouped `and`: the first non-true operand result. -/
theorem solve_group_and (E : RegexEngine) (K : IdentK) (d : Doc) (es : List Expr) :
    solveG E K d (.group .and es) = Tri.and (es.map (solveG E K d)) :=
  group_and_value E K d es

/-- Two-operand `and` is the grouped table at arity 2. -/
theorem solve_bin_and (E : RegexEngine) (K : IdentK) (d : Doc) (l r : Expr) :
    solveG E K d (.bin l .and r) = Tri.and [solveG E K d l, solveG E K d r] := by
  simp only [solveG, binAnd_eq]

/-- Two-operand `or` is the grouped table at arity 2. -/
theorem solve_bin_or (E : RegexEngine) (K : IdentK) (d : Doc) (l r : Expr) :
    solveG E K d (.bin l .or r) = Tri.or [solveG E K d l, solveG E K d r] := by
  simp only [solveG, binOr_eq]

/-- `not` swaps true and false and turns missing into false. -/
theorem solve_negate (E : RegexEngine) (K : IdentK) (d : Doc) (e : Expr) :
    solveG E K d (.negate e) = (solveG E K d e).not := by
  simp only [solveG]

theorem not_table : Tri.not .t = .f ∧ Tri.not .f = .t ∧ Tri.not .m = .f := ⟨rfl, rfl, rfl⟩

/-- `all(..)` over a key list (a group under the `Match` node): every operand true. -/
theorem solve_all_group (E : RegexEngine) (K : IdentK) (d : Doc) (op : BoolSym) (es : List Expr) :
    solveG E K d (.match .all (.group op es)) = Tri.and (es.map (solveG E K d)) := by
  simp only [solveG, andG_eq_map]

/-- `of(.., n)` over a key list: at least `n` true operands; `n = 0`: none true. -/
theorem solve_of_group (E : RegexEngine) (K : IdentK) (d : Doc) (n : Nat) (op : BoolSym) (es : List Expr) :
    solveG E K d (.match (.of n) (.group op es)) = Tri.ofN n (es.map (solveG E K d)) := by
  simp only [solveG, listG_eq_map]

/-- `all(X)` in the condition, `X` an identifier whose body is a list of entries. -/
theorem solve_all_ident (E : RegexEngine) (ids : Ids) (d : Doc) (i : Str) (op : BoolSym) (es : List Expr)
    (h : lookupId ids i = some (.group op es)) :
    solveTop E ids d (.match .all (.ident i)) = Tri.and (es.map (solveClosed E d)) := by
  simp only [solveTop, solveG, topK_match_some E h]
  exact solve_all_group E closedK d op es

/-- `of(X, n)` in the condition, `X` an identifier whose body is a list of entries. -/
theorem solve_of_ident (E : RegexEngine) (ids : Ids) (d : Doc) (i : Str) (n : Nat) (op : BoolSym)
    (es : List Expr) (h : lookupId ids i = some (.group op es)) :
    solveTop E ids d (.match (.of n) (.ident i)) = Tri.ofN n (es.map (solveClosed E d)) := by
  simp only [solveTop, solveG, topK_match_some E h]
  exact solve_of_group E closedK d n op es

/-- An identifier in the condition has the value of its body. -/
theorem solve_ident (E : RegexEngine) (ids : Ids) (d : Doc) (i : Str) (b : Expr)
    (h : lookupId ids i = some b) :
    solveTop E ids d (.ident i) = solveClosed E d b := by
  simp only [solveTop, solveG, topK_ident_some E h]

/-- A rule matches only when the whole condition is true: false and missing both mean no match. -/
theorem verdict_iff (E : RegexEngine) (ids : Ids) (d : Doc) (e : Expr) :
    matchesTop E ids d e = true ↔ solveTop E ids d e = .t :=
  Tri.isT_iff _

/-! The tables themselves, in the words of the property. -/

theorem or_table (xs : List Tri) :
    Tri.or xs = (if .t ∈ xs then .t else if .f ∈ xs then .f else .m) :=
  Tri.or_table xs

theorem and_table_first_non_true (pre : List Tri) (x : Tri) (post : List Tri)
    (hpre : ∀ y ∈ pre, y = .t) (hx : x ≠ .t) : Tri.and (pre ++ x :: post) = x := by
  rw [and_append', (Tri.and_eq_t_iff pre).mpr hpre, and_cons']
  cases x <;> first | rfl | exact absurd rfl hx

theorem and_table_all_true (xs : List Tri) (h : ∀ y ∈ xs, y = .t) : Tri.and xs = .t :=
  (Tri.and_eq_t_iff xs).mpr h

theorem of_table_pos (n : Nat) (hn : 0 < n) (xs : List Tri) :
    (Tri.ofN n xs = .t ↔ n ≤ xs.countP (· == .t)) :=
  Tri.ofN_pos_eq_t n (Nat.ne_of_gt hn) xs

theorem of_table_zero (xs : List Tri) :
    (Tri.ofN 0 xs = .t ↔ (.t ∉ xs ∧ .f ∈ xs)) := by
  unfold Tri.ofN
  simp only [if_true]
  by_cases h1 : Tri.t ∈ xs <;> by_cases h2 : Tri.f ∈ xs <;> simp [h1, h2, List.any_eq_true]

/-- Non-vacuity: a concrete three-operand group with one operand of each result. -/
example : Tri.or [.m, .f, .t] = .t ∧ Tri.and [.t, .m, .f] = .m ∧ Tri.ofN 2 [.t, .m, .t] = .t
    ∧ Tri.ofN 0 [.m, .f] = .t ∧ Tri.ofN 3 [.t, .t] = .m := by decide

end Tau.C06
