import Tau.Proofs.Rule
import Tau.Proofs.MemberLoop
/-
  C15 — the ignore_case build equals the default build with every pattern i-prefixed.
-/
namespace Tau.C15
open Tau

/-- Pattern level: in a build with feature `ignore_case` a string pattern parses exactly as the
    same pattern with an `i` prepended parses in the default build (same case flag, same folded
    needle, same regex flag) — and no `i` prefix is interpreted in that build. -/
theorem ic_feature (E : RegexEngine) (s : Str) :
    intoIdentifier E true s = intoIdentifier E false ('i' :: s) := by
  simp [intoIdentifier, stripCase]

theorem ic_always_insensitive (E : RegexEngine) (s : Str) (i : Ident)
    (h : intoIdentifier E true s = .ok i) : i.ci = true := by
  unfold intoIdentifier at h
  split at h
  · cases h; simp [stripCase]
  · cases h

/-- In the `ignore_case` build a leading `i` is part of the pattern text, not a flag. -/
example (E : RegexEngine) :
    intoIdentifier E true "iab".toList = .ok ⟨true, .exact "iab".toList⟩ ∧
    intoIdentifier E false "iab".toList = .ok ⟨true, .exact "ab".toList⟩ := by
  -- the simproc spells the literals out; left to `rfl`, the elaborator decodes them byte by byte
  dsimp only [String.reduceToList]
  exact ⟨rfl, rfl⟩

/-- `i` prepended to every string pattern of a YAML value (keys, numbers, booleans untouched). -/
def iPrefix : Yaml → Yaml
  | .str s => .str ('i' :: s)
  | .seq xs => .seq (iPrefixL xs)
  | .map kvs => .map (iPrefixM kvs)
  | y => y
where
  iPrefixL : List Yaml → List Yaml
    | [] => []
    | x :: xs => iPrefix x :: iPrefixL xs
  iPrefixM : List (Yaml × Yaml) → List (Yaml × Yaml)
    | [] => []
    | p :: rest => iPrefixP p :: iPrefixM rest
  iPrefixP : Yaml × Yaml → Yaml × Yaml
    | (k, v) => (k, iPrefix v)

theorem isSeq_iPrefix (v : Yaml) : (iPrefix v).isSeq = v.isSeq := by
  cases v <;> simp [iPrefix, Yaml.isSeq]

theorem castAt_iPrefix (misc : Option ModSym) (v : Yaml) (st : SeqSt) :
    castAt misc (iPrefix v) st = castAt misc v st := by
  cases v <;> rfl

mutual
theorem entries_ic (E : RegexEngine) : ∀ (kvs : List (Yaml × Yaml)),
    parseEntries E true kvs = parseEntries E false (iPrefix.iPrefixM kvs)
  | [] => rfl
  | p :: rest => by
    simp only [parseEntries, iPrefix.iPrefixM, pair_ic E p, entries_ic E rest]

theorem pair_ic (E : RegexEngine) : ∀ (p : Yaml × Yaml),
    parsePair E true p = parsePair E false (iPrefix.iPrefixP p)
  | (k, v) => by
    simp only [parsePair, iPrefix.iPrefixP, isSeq_iPrefix]
    cases parseKey k v.isSeq with
    | error e => rfl
    | ok r =>
      obtain ⟨e, f, misc⟩ := r
      exact val_ic E e f misc v

theorem val_ic (E : RegexEngine) (e : Expr) (f : Str) (misc : Option ModSym) : ∀ (v : Yaml),
    parseVal E true e f misc v = parseVal E false e f misc (iPrefix v)
  | .null | .bool _ | .num (.int _) | .num (.big ..) | .num (.flt ..) | .tagged _ => rfl
  | .str s => by simp only [parseVal, iPrefix, ic_feature]
  | .map m => by simp only [parseVal, iPrefix, entries_ic E m]
  | .seq s => by simp only [parseVal, iPrefix, members_ic E f misc _ s]

theorem delta_ic (E : RegexEngine) (f : Str) (misc : Option ModSym) (lhs : Expr) (c : Bool) : ∀ (v : Yaml),
    memberDelta E true f misc lhs c v = memberDelta E false f misc lhs c (iPrefix v)
  | .str s => by simp only [memberDelta, iPrefix, ic_feature]
  | .map m => by simp only [memberDelta, iPrefix, entries_ic E m]
  | .null | .bool _ | .num (.int _) | .num (.big ..) | .num (.flt ..) | .tagged _ | .seq _ => rfl

theorem members_ic (E : RegexEngine) (f : Str) (misc : Option ModSym) (lhs : Expr) :
    ∀ (vs : List Yaml) (st : SeqSt),
    parseMembers E true f misc lhs vs st = parseMembers E false f misc lhs (iPrefix.iPrefixL vs) st
  | [], st => rfl
  | v :: vs, st => by
    rw [iPrefix.iPrefixL, parseMembers_cons, parseMembers_cons, castAt_iPrefix, ← delta_ic E f misc lhs _ v]
    exact bind_congr fun δ => members_ic E f misc lhs vs _
end

/-- One mapping (`parse_mapping`); the identifier level is `parseIdentifier_ic`. -/
theorem parse_identifier_ic (E : RegexEngine) (kvs : List (Yaml × Yaml)) :
    parseMapping E true kvs = parseMapping E false (iPrefix.iPrefixM kvs) := by
  simp [parseMapping, entries_ic]

theorem go_ic (E : RegexEngine) : ∀ (ys : List Yaml),
    parseIdentifier.go E true ys = parseIdentifier.go E false (iPrefix.iPrefixL ys)
  | [] => rfl
  | y :: rest => by
    cases y with
    | map m =>
      simp only [parseIdentifier.go, iPrefix.iPrefixL, iPrefix, entries_ic E m, go_ic E rest]
    | _ => rfl

theorem parseIdentifier_ic (E : RegexEngine) (y : Yaml) :
    parseIdentifier E true y = parseIdentifier E false (iPrefix y) := by
  cases y with
  | map m => simp only [parseIdentifier, iPrefix]; exact parse_identifier_ic E m
  | seq ys =>
    cases ys with
    | nil => rfl
    | cons a r =>
      simp only [parseIdentifier, go_ic E (a :: r), iPrefix, iPrefix.iPrefixL]
  | _ => rfl

/-- The detection block with `i` prepended to every string pattern of every identifier (the
    condition is left alone). -/
def iPrefixDet : List (Str × Yaml) → List (Str × Yaml)
  | [] => []
  | (k, v) :: rest => (if k == condKey then (k, v) else (k, iPrefix v)) :: iPrefixDet rest

/-- The loader state of the default build: same parsed identifiers and condition, the raw values
    carry the prepended `i`. -/
def stMap (st : LoadSt) : LoadSt :=
  { st with idsRaw := st.idsRaw.map (fun p => (p.1, iPrefix p.2)) }

theorem stMap_cond (st : LoadSt) : (stMap st).cond = st.cond := rfl
theorem stMap_ids (st : LoadSt) : (stMap st).ids = st.ids := rfl

theorem loadStep_ic (E : RegexEngine) (k : Str) (v : Yaml) (st : LoadSt) :
    (C14.loadStep E true (k, v) st).map stMap =
      C14.loadStep E false (if k == condKey then (k, v) else (k, iPrefix v)) (stMap st) := by
  unfold C14.loadStep
  by_cases hk : (k == condKey) = true
  · simp only [hk, if_true, stMap_cond]
    split
    · rfl
    · cases scalarYamlText v <;> rfl
  · simp only [hk, Bool.false_eq_true, if_false, ← parseIdentifier_ic E v, stMap_ids]
    split
    · rfl
    · cases parseIdentifier E true v <;> simp [stMap, Except.map]

theorem loadEntries_ic (E : RegexEngine) : ∀ (es : List (Str × Yaml)) (st : LoadSt),
    (loadEntries E true es st).map stMap = loadEntries E false (iPrefixDet es) (stMap st)
  | [], st => rfl
  | (k, v) :: rest, st => by
    rw [iPrefixDet, loadEntries_step, loadEntries_step, ← loadStep_ic]
    cases C14.loadStep E true (k, v) st with
    | error e => rfl
    | ok st1 => exact loadEntries_ic E rest st1

/-- The `ignore_case` build loads a detection block exactly when the default build loads the block
    with `i` prepended to every string pattern, and then with the same condition tree and the same
    identifier trees; when they reject it, with the same error. -/
theorem loadDetection_ic (E : RegexEngine) (entries : List (Str × Yaml)) :
    (loadDetection E true entries).map (fun d => (d.expr, d.ids, d.condRaw)) =
    (loadDetection E false (iPrefixDet entries)).map (fun d => (d.expr, d.ids, d.condRaw)) := by
  have h : _ = loadEntries E false (iPrefixDet entries) {} := loadEntries_ic E entries {}
  rw [loadDetection_eq, loadDetection_eq, ← h]
  cases loadEntries E true entries {} with
  | error e => rfl
  | ok st =>
    show (finishLoad st).map _ = (finishLoad (stMap st)).map _
    rw [show finishLoad (stMap st) = _ from finishLoad_idsRaw st _]
    cases finishLoad st <;> rfl

/-- A rule in the `ignore_case` build gives, on every document, the three-valued result (hence the
    verdict) the default build gives for the same rule with `i` prepended to every string pattern. -/
theorem rule_ic_verdict (E : RegexEngine) (entries : List (Str × Yaml)) (d1 d2 : Detection)
    (h1 : loadDetection E true entries = .ok d1) (h2 : loadDetection E false (iPrefixDet entries) = .ok d2)
    (doc : Doc) : solveTop E d1.ids doc d1.expr = solveTop E d2.ids doc d2.expr := by
  have h := loadDetection_ic E entries
  rw [h1, h2] at h
  simp only [Except.map, Except.ok.injEq, Prod.mk.injEq] at h
  rw [h.1, h.2.1]

/-- Either build rejects what the other rejects. -/
theorem rule_ic_loads (E : RegexEngine) (entries : List (Str × Yaml)) :
    (loadDetection E true entries).isOk = (loadDetection E false (iPrefixDet entries)).isOk := by
  have h := loadDetection_ic E entries
  cases h1 : loadDetection E true entries <;> cases h2 : loadDetection E false (iPrefixDet entries) <;>
    simp [h1, h2, Except.map, Except.isOk, Except.toBool] at h ⊢

end Tau.C15
