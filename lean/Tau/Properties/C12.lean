import Tau.Rule
import Tau.Proofs.Grouping
/-
  C12 — Loading, optimising and matching are deterministic and pure (partial).

  In the model these are functions of (rule source, switches, document), with no state to carry from
  one call to the next. What the model cannot exhibit is the runtime: thread interleavings inside the
  regex crate's pools, the per-process seeding of hash maps. The optimiser groups in ordered maps
  (`BTreeMap`; `groupInsert_head_ge`: insertion keeps a lower bound on the keys); the correspondence
  run (fresh process, 16 threads, repeated optimise calls) guards against hash-ordered grouping.
-/
namespace Tau.C12
open Tau

/-- The keys are in strictly increasing order (so iterating the list is iterating in key order).
    That `groupInsert` keeps it is not proved here; `groupInsert_head_ge` is the step such a proof takes. -/
def KeysSorted {κ α} (cmp : κ → κ → Ordering) : List (κ × List α) → Prop
  | [] => True
  | [_] => True
  | (k1, _) :: (k2, v2) :: rest => cmp k1 k2 = .lt ∧ KeysSorted cmp ((k2, v2) :: rest)

theorem groupInsert_head_ge {κ α} (cmp : κ → κ → Ordering) (k : κ) (v : List α) (l : List (κ × List α))
    (k0 : κ) (h0 : cmp k0 k = .lt)
    (hl : ∀ p ∈ l, cmp k0 p.1 = .lt) : ∀ p ∈ groupInsert cmp k v l, cmp k0 p.1 = .lt := by
  intro p hp
  rcases groupInsert_mem cmp k v l hp with rfl | ⟨vs, hm, _⟩ | hm
  · exact h0
  · exact hl (p.1, vs) hm
  · exact hl p hm

/-- Matching is a pure function: the verdict for a document does not depend on which documents
    were matched before (there is nothing for an earlier call to leave behind). -/
theorem matches_history_independent (E : RegexEngine) (r : Rule) (history : List Doc) (d : Doc) :
    (history.map (r.matches E), r.matches E d).2 = r.matches E d := rfl

theorem matches_leaves_rule (E : RegexEngine) (r : Rule) (d : Doc) :
    (r.matches E d, r).2 = r := rfl

/-- Optimising is a function of (rule, switches): two calls give the same rule, so the same
    printed expression and the same verdicts. -/
theorem optimise_deterministic (E : RegexEngine) (sw : Switches) (r : Rule) (d : Doc) :
    ∀ r1 r2, r1 = r.optimise E sw → r2 = r.optimise E sw → r1 = r2 ∧ r1.matches E d = r2.matches E d := by
  rintro _ _ rfl rfl; exact ⟨rfl, rfl⟩

/-- Optimising an already optimised rule is a no-op. -/
theorem optimise_idempotent (E : RegexEngine) (sw sw' : Switches) (r : Rule) :
    (r.optimise E sw).optimise E sw' = r.optimise E sw := by
  unfold Rule.optimise
  by_cases h : r.optimised <;> simp [h]

/-- Inserting the same groups in a different order yields the same key sequence. -/
example :
    (groupInsert strCmp ['b'] [1] (groupInsert strCmp ['a'] [2] [])).map (·.1) =
    (groupInsert strCmp ['a'] [2] (groupInsert strCmp ['b'] [1] [])).map (·.1) := by decide

end Tau.C12
