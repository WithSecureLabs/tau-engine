import Tau.Properties.C06
import Tau.Properties.C14
import Tau.Proofs.Batch
/-
  C02 — Verdicts follow the documented rule language (partial).

  The reference semantics is split by layer: the condition language over identifier results
  (`Spec.cond`), the shape of identifiers (a mapping is the conjunction of its entries in written
  order, a sequence of mappings a disjunction), and the leaf predicates (C07 strings, C09 numbers,
  C10 paths, C08 quantifiers). The independent reference interpreter from the YAML text and the
  document value is the Rust oracle of the C02 check; its Lean counterpart here is `semIdent`,
  which defines the shape (and / or / `not` / nested / a list as the `or` of its members); leaves
  mean what parser and solver make of them (`atomSem`, `memberAlone`).
-/
namespace Tau.C02
open Tau

/-- The condition language. -/
inductive Cond where
  | id (i : Str)
  | not (c : Cond)
  | and (a b : Cond)
  | or (a b : Cond)
  | all (i : Str)
  | of (i : Str) (n : Nat)

def Cond.toExpr : Cond → Expr
  | .id i => .ident i
  | .not c => .negate c.toExpr
  | .and a b => .bin a.toExpr .and b.toExpr
  | .or a b => .bin a.toExpr .or b.toExpr
  | .all i => .match .all (.ident i)
  | .of i n => .match (.of n) (.ident i)

/-- Reference semantics of a condition, given the result of every identifier (`val`) and of every
    identifier's entries (`entries`): the documented tables, nothing else. -/
def Spec.cond (val : Str → Tri) (entries : Str → List Tri) : Cond → Tri
  | .id i => val i
  | .not c => (Spec.cond val entries c).not
  | .and a b => Tri.and [Spec.cond val entries a, Spec.cond val entries b]
  | .or a b => Tri.or [Spec.cond val entries a, Spec.cond val entries b]
  | .all i => Tri.and (entries i)
  | .of i n => Tri.ofN n (entries i)

/-- The identifiers a condition quantifies over. -/
def Cond.quantified : Cond → List Str
  | .id _ => []
  | .not c => c.quantified
  | .and a b => a.quantified ++ b.quantified
  | .or a b => a.quantified ++ b.quantified
  | .all i => [i]
  | .of i _ => [i]

theorem cond_refines_on (E : RegexEngine) (ids : Ids) (d : Doc) (c : Cond)
    (val : Str → Tri) (entries : Str → List Tri)
    (hval : ∀ i, solveTop E ids d (.ident i) = val i)
    (hq : ∀ i ∈ c.quantified, solveTop E ids d (.match .all (.ident i)) = Tri.and (entries i) ∧
      ∀ n, solveTop E ids d (.match (.of n) (.ident i)) = Tri.ofN n (entries i)) :
    solveTop E ids d c.toExpr = Spec.cond val entries c := by
  induction c with
  | id i => exact hval i
  | not c ih => exact congrArg Tri.not (ih hq)
  | and a b iha ihb =>
    show _ = Tri.and [Spec.cond val entries a, Spec.cond val entries b]
    rw [← iha fun i hi => hq i (List.mem_append_left _ hi),
      ← ihb fun i hi => hq i (List.mem_append_right _ hi), ← binAnd_eq]
    exact bin_and_value ..
  | or a b iha ihb =>
    show _ = Tri.or [Spec.cond val entries a, Spec.cond val entries b]
    rw [← iha fun i hi => hq i (List.mem_append_left _ hi),
      ← ihb fun i hi => hq i (List.mem_append_right _ hi), ← binOr_eq]
    exact bin_or_value ..
  | all i => exact (hq i List.mem_cons_self).1
  | of i n => exact (hq i List.mem_cons_self).2 n

/-- The engine's evaluation of a condition is the reference semantics, where an identifier's value
    is the value of its body and its entries are the members of its body when that is a list. -/
theorem cond_refines (E : RegexEngine) (ids : Ids) (d : Doc) (c : Cond)
    (val : Str → Tri) (entries : Str → List Tri)
    (hval : ∀ i, solveTop E ids d (.ident i) = val i)
    (hall : ∀ i, solveTop E ids d (.match .all (.ident i)) = Tri.and (entries i))
    (hof : ∀ i n, solveTop E ids d (.match (.of n) (.ident i)) = Tri.ofN n (entries i)) :
    solveTop E ids d c.toExpr = Spec.cond val entries c :=
  cond_refines_on E ids d c val entries hval fun i _ => ⟨hall i, hof i⟩

/-- For an identifier whose body is a list of entries the hypothesis `hq` of `cond_refines_on` holds
    with the entries' own results (C06). -/
theorem entries_of_group (E : RegexEngine) (ids : Ids) (d : Doc) (i : Str) (op : BoolSym) (es : List Expr)
    (h : lookupId ids i = some (.group op es)) :
    solveTop E ids d (.match .all (.ident i)) = Tri.and (es.map (solveClosed E d)) ∧
    ∀ n, solveTop E ids d (.match (.of n) (.ident i)) = Tri.ofN n (es.map (solveClosed E d)) :=
  ⟨C06.solve_all_ident E ids d i op es h, fun n => C06.solve_of_ident E ids d i n op es h⟩

/-- A sequence of mappings is the disjunction of its mappings. -/
theorem sequence_is_or (E : RegexEngine) (d : Doc) (es : List Expr) :
    solveClosed E d (.group .or es) = Tri.or (es.map (solveClosed E d)) :=
  group_or_value E closedK d es

/-- A field the document does not have makes its predicate missing — never true. -/
theorem absent_field_missing (E : RegexEngine) (K : IdentK) (d : Doc) (f : Str) (h : d.find f = none) :
    (∀ s c, solveG E K d (.search s f c) = .m) ∧
    (∀ e, solveG E K d (.nested f e) = .m) ∧
    (∀ op i, op ≠ .and → op ≠ .or → solveG E K d (.bin (.field f) op (.int i)) = .m) :=
  ⟨fun s c => by rw [solve_search, solveSearch, h], fun e => nested_missing E K d f e h,
    fun op i h1 h2 => by rw [solveG_bin_cmp E K d ⟨h1, h2⟩, solveCmp_field_missing d f op _ h]⟩

/-- Only a condition that evaluates to true is a match. -/
theorem only_true_matches (E : RegexEngine) (ids : Ids) (d : Doc) (e : Expr) :
    matchesTop E ids d e = true ↔ solveTop E ids d e = .t := C06.verdict_iff E ids d e

/-- The documented meaning of a nested mapping under key `f`: missing if the field is absent; the
    body on the object; "some element satisfies it" on an array; false on anything else. -/
def nestedSem (f : Str) (body : Doc → Tri) (d : Doc) : Tri :=
  match d.find f with
  | none => .m
  | some (.obj kvs) => body (.obj kvs)
  | some (.arr a) => Tri.ofBool ((elemObjs a).any (fun kvs => body (.obj kvs) == .t))
  | some _ => .f

def notTri (misc : Option ModSym) (t : Tri) : Tri := if misc == some .not then t.not else t

def isMatchE : Expr → Bool
  | .match _ _ => true
  | _ => false

section
variable (E : RegexEngine) (ic : Bool) (K : IdentK)

/-- A scalar under a key: what parser and solver make of it (the leaf predicates are C07, C09, C10). -/
def atomSem (e : Expr) (f : Str) (misc : Option ModSym) (v : Yaml) (d : Doc) : Tri :=
  match parseVal E ic e f misc v with
  | .ok x => solveG E K d x
  | .error _ => .m

mutual
/-- Entries of a mapping, in written order. -/
def semEntries : List (Yaml × Yaml) → Doc → List Tri
  | [], _ => []
  | p :: rest, d => semPair p d :: semEntries rest d
def semPair : Yaml × Yaml → Doc → Tri
  | (k, v), d =>
    match parseKey k v.isSeq with
    | .error _ => .m
    | .ok (e, f, misc) => semVal e f misc v d
/-- A value under a key: a nested mapping, a list (the `or` of its members), or a leaf. -/
def semVal (e : Expr) (f : Str) (misc : Option ModSym) : Yaml → Doc → Tri
  | .map m, d => notTri misc (nestedSem f (fun d' => Tri.and (semEntries m d')) d)
  | .seq s, d => notTri misc (Tri.or (semMembers e f misc s d))
  | .null, d => atomSem E ic K e f misc .null d
  | .bool b, d => atomSem E ic K e f misc (.bool b) d
  | .num n, d => atomSem E ic K e f misc (.num n) d
  | .str s, d => atomSem E ic K e f misc (.str s) d
  | .tagged y, d => atomSem E ic K e f misc (.tagged y) d
/-- Members of a list, one at a time. -/
def semMembers (e : Expr) (f : Str) (misc : Option ModSym) : List Yaml → Doc → List Tri
  | [], _ => []
  | .map m :: vs, d => nestedSem f (fun d' => Tri.and (semEntries m d')) d :: semMembers e f misc vs d
  | v :: vs, d => V E K d (memberAlone E ic f misc (unmatchedOf e) v) :: semMembers e f misc vs d
end

/-- An identifier: a mapping (conjunction of its entries) or a sequence of mappings (disjunction). -/
def semIdent : Yaml → Doc → Tri
  | .map m, d => Tri.and (semEntries E ic K m d)
  | .seq ys, d => Tri.or (ys.map (fun y => match y with | .map m => Tri.and (semEntries E ic K m d) | _ => .m))
  | _, _ => .m

end

theorem solve_wrapNot (E : RegexEngine) (K : IdentK) (d : Doc) (misc : Option ModSym) (x : Expr) :
    solveG E K d (wrapNot misc x) = notTri misc (solveG E K d x) := by
  unfold wrapNot notTri
  split <;> rfl

theorem isMatch_wrapNot {misc : Option ModSym} {x : Expr} (h : isMatchE x = false) :
    isMatchE (wrapNot misc x) = false :=
  wrapNot_ind (P := fun x => isMatchE x = false) misc x h rfl

theorem ne_match {e : Expr} (he : isMatchE e = false) : ∀ k y, e ≠ .match k y :=
  fun _ _ h => by subst h; cases he

theorem shapeGroup_notMatch (e g : Expr) (gs : List Expr) (m : Bool)
    (he : isMatchE e = false) (hg : isMatchE g = false) : isMatchE (shapeGroup e g gs m) = false := by
  rw [shapeGroup_plain (ne_match he)]
  split
  · exact hg
  · rfl

/-- A list under any non-quantifier key: the `or` of its members taken one at a time, negated
    under `not(k)`. -/
theorem list_value (E : RegexEngine) (ic : Bool) (e : Expr) (f : Str) (misc : Option ModSym) (s : List Yaml)
    (x : Expr) (he : isMatchE e = false)
    (h : parseVal E ic e f misc (.seq s) = .ok x) (K : IdentK) (d : Doc) :
    solveG E K d x =
      notTri misc (Tri.or (s.map (fun v => V E K d (memberAlone E ic f misc (unmatchedOf e) v)))) := by
  obtain ⟨y, rfl, hy⟩ := seq_value E K d (ne_match he) h
  rw [solve_wrapNot, hy]

theorem nestedSpecial_of_not_match {x : Expr} (hx : isMatchE x = false) : nestedSpecial x = false := by
  cases x <;> first | rfl | cases hx

theorem nested_value (E : RegexEngine) (K : IdentK) (d : Doc) (f : Str) (x : Expr) (hx : isMatchE x = false) :
    solveG E K d (.nested f x) = nestedSem f (fun d' => solveG E K d' x) d :=
  nested_generic E K d f x (nestedSpecial_of_not_match hx)

theorem finish_value (E : RegexEngine) (K : IdentK) {r : Except Err (List Expr)} {x : Expr}
    (h : finishMapping r = .ok x) :
    ∃ es, r = .ok es ∧ (∀ d, solveG E K d x = Tri.and (es.map (solveG E K d))) ∧
      ((∀ e ∈ es, isMatchE e = false) → isMatchE x = false) := by
  obtain ⟨es, rfl, hsh⟩ := finishMapping_ok h
  refine ⟨es, rfl, ?_⟩
  rcases hsh with rfl | rfl
  · exact ⟨fun d => by simp only [List.map_cons, List.map_nil, and_single], fun hm => hm x (by simp)⟩
  · exact ⟨fun d => group_and_value E K d _, fun _ => rfl⟩

/-- A mapping is the conjunction of its entries taken in written order. -/
theorem mapping_is_and (E : RegexEngine) (ic : Bool) (d : Doc) (kvs : List (Yaml × Yaml)) (e : Expr)
    (h : parseMapping E ic kvs = .ok e) :
    ∃ es, parseEntries E ic kvs = .ok es ∧ solveClosed E d e = Tri.and (es.map (solveClosed E d)) := by
  obtain ⟨es, hes, hv, _⟩ := finish_value E closedK h
  exact ⟨es, hes, hv d⟩

theorem notMatch_wrap_search (misc : Option ModSym) (s : Search) (f : Str) (c : Bool) :
    isMatchE (wrapNot misc (.search s f c)) = false := isMatch_wrapNot rfl

theorem builtV_notMatch {L : Expr → Prop} {e x : Expr} (he : isMatchE e = false) :
    BuiltV L e x → isMatchE x = false
  | .scalar hy => isMatch_wrapNot (by cases hy <;> rfl)
  | .list (g := g) h =>
    isMatch_wrapNot (shapeGroup_notMatch e g _ _ he (by cases h g (by simp) <;> rfl))

theorem val_notMatch (E : RegexEngine) (ic : Bool) (e : Expr) (f : Str) (misc : Option ModSym)
    (he : isMatchE e = false) (v : Yaml) (x : Expr) (h : parseVal E ic e f misc v = .ok x) :
    isMatchE x = false :=
  builtV_notMatch he
    ((val_post E ic (L := fun _ => True) (fun _ _ => trivial) e f misc v (fun _ => trivial) trivial).ok h)

/- `nq…`: no key of the value, at any depth, parses to an all()/of() node; list members that are
   no mappings carry no keys. -/
mutual
def nqEntries : List (Yaml × Yaml) → Bool
  | [] => true
  | p :: rest => nqPair p && nqEntries rest
def nqPair : Yaml × Yaml → Bool
  | (k, v) =>
    (match parseKey k v.isSeq with
     | .ok (e, _, _) => !isMatchE e
     | .error _ => true) && nqVal v
def nqVal : Yaml → Bool
  | .map m => nqEntries m
  | .seq s => nqMembers s
  | _ => true
def nqMembers : List Yaml → Bool
  | [] => true
  | .map m :: vs => nqEntries m && nqMembers vs
  | _ :: vs => nqMembers vs
end

def nqIdent : Yaml → Bool
  | .map m => nqEntries m
  | .seq ys => ys.all (fun y => match y with | .map m => nqEntries m | _ => true)
  | _ => true

section
variable (E : RegexEngine) (ic : Bool) (K : IdentK)

def EntriesOK (kvs : List (Yaml × Yaml)) (es : List Expr) : Prop :=
  (∀ d, es.map (solveG E K d) = semEntries E ic K kvs d) ∧ (∀ x ∈ es, isMatchE x = false)

theorem body_sem {m : List (Yaml × Yaml)} {y : Expr}
    (hent : ∀ es, parseEntries E ic m = .ok es → EntriesOK E ic K m es)
    (h : finishMapping (parseEntries E ic m) = .ok y) :
    (∀ d, solveG E K d y = Tri.and (semEntries E ic K m d)) ∧ isMatchE y = false := by
  obtain ⟨es, hes, hv, hm⟩ := finish_value E K h
  obtain ⟨h1, h2⟩ := hent es hes
  exact ⟨fun d => by rw [hv d, h1 d], hm h2⟩

theorem nested_body_sem {m : List (Yaml × Yaml)} {y : Expr}
    (hent : ∀ es, parseEntries E ic m = .ok es → EntriesOK E ic K m es)
    (h : finishMapping (parseEntries E ic m) = .ok y) (f : Str) (d : Doc) :
    solveG E K d (.nested f y) = nestedSem f (fun d' => Tri.and (semEntries E ic K m d')) d := by
  obtain ⟨hv, hm⟩ := body_sem E ic K hent h
  rw [nested_value E K d f y hm]
  congr 1
  funext d'
  exact hv d'

theorem atomSem_ok {e : Expr} {f : Str} {misc : Option ModSym} {v : Yaml} {x : Expr}
    (h : parseVal E ic e f misc v = .ok x) (d : Doc) : solveG E K d x = atomSem E ic K e f misc v d := by
  unfold atomSem
  rw [h]

mutual
theorem entries_sem : ∀ (kvs : List (Yaml × Yaml)) (es : List Expr),
    parseEntries E ic kvs = .ok es → nqEntries kvs = true → EntriesOK E ic K kvs es
  | [], es, h, _ => by
    cases h
    exact ⟨fun _ => rfl, nofun⟩
  | p :: rest, es, h, hq => by
    obtain ⟨hq1, hq2⟩ := Bool.and_eq_true_iff.mp hq
    obtain ⟨x, xs, hx, hxs, rfl⟩ := parseEntries_cons_ok h
    obtain ⟨h1, h2⟩ := pair_sem p x hx hq1
    obtain ⟨h3, h4⟩ := entries_sem rest xs hxs hq2
    exact ⟨fun d => congr (congrArg _ (h1 d)) (h3 d), List.forall_mem_cons.2 ⟨h2, h4⟩⟩
-- said so that the recursion is not first tried on `es`
termination_by structural kvs => kvs

theorem pair_sem : ∀ (p : Yaml × Yaml) (x : Expr), parsePair E ic p = .ok x → nqPair p = true →
    (∀ d, solveG E K d x = semPair E ic K p d) ∧ isMatchE x = false
  | (k, v), x, h, hq => by
    simp only [parsePair] at h
    split at h
    · cases h
    · next e f misc hk =>
      simp only [nqPair, hk, Bool.and_eq_true, Bool.not_eq_true'] at hq
      obtain ⟨h1, h2⟩ := val_sem e f misc hq.1 (parseKey_leaf k v.isSeq e f misc hk).2 v x h hq.2
      exact ⟨fun d => by simp only [semPair, hk]; exact h1 d, h2⟩

theorem val_sem (e : Expr) (f : Str) (misc : Option ModSym) (he : isMatchE e = false)
    (hleaf : isLeafE (unmatchedOf e) = true) :
    ∀ (v : Yaml) (x : Expr), parseVal E ic e f misc v = .ok x → nqVal v = true →
      (∀ d, solveG E K d x = semVal E ic K e f misc v d) ∧ isMatchE x = false
  | v, x, h, hq => by
    refine ⟨fun d => ?_, val_notMatch E ic e f misc he v x h⟩
    cases v with
    | null | bool _ | num _ | str _ | tagged _ => exact atomSem_ok E ic K h d
    | map m =>
      obtain ⟨y, hy, rfl⟩ := parseVal_map_ok h
      rw [solve_wrapNot, nested_body_sem E ic K (fun es hes => entries_sem m es hes hq) hy]
      rfl
    | seq s =>
      rw [list_value E ic e f misc s x he h K d]
      show notTri misc (Tri.or _) = notTri misc (Tri.or _)
      congr 2
      obtain ⟨st, _, _, hst, _⟩ := parseVal_seq_ok h
      exact members_sem e f misc s hq
        (parseMembers_ok_members E ic f misc (unmatchedOf e) s _ st rfl hst) d

/-- The second hypothesis serves mapping members only: a rejected mapping would make `memberAlone`
    empty. -/
theorem members_sem (e : Expr) (f : Str) (misc : Option ModSym) :
    ∀ (vs : List Yaml), nqMembers vs = true →
      (∀ v ∈ vs, ∃ δ, memberDelta E ic f misc (unmatchedOf e) (misc == some .str) v = .ok δ) →
      ∀ d, vs.map (fun v => V E K d (memberAlone E ic f misc (unmatchedOf e) v)) = semMembers E ic K e f misc vs d
  | [], _, _, d => rfl
  | v :: vs, hq, hok, d => by
    have htail := fun hq' => members_sem e f misc vs hq' (fun w hw => hok w (List.mem_cons_of_mem _ hw)) d
    cases v with
    | map m =>
      obtain ⟨hq1, hq2⟩ := Bool.and_eq_true_iff.mp hq
      obtain ⟨δ, hδ⟩ := hok (.map m) List.mem_cons_self
      obtain ⟨y, hy, rfl⟩ := memberDelta_map_ok hδ
      have hma : memberAlone E ic f misc (unmatchedOf e) (.map m) = [.nested f y] := by
        simp only [memberAlone, hδ]; rfl
      refine congr (congrArg _ ?_) (htail hq2)
      show V E K d (memberAlone E ic f misc (unmatchedOf e) (.map m)) = _
      rw [hma, V_single, nested_body_sem E ic K (fun es hes => entries_sem m es hes hq1) hy]
    | _ => exact congrArg _ (htail hq)
end

end

section
variable (E : RegexEngine) (ic : Bool) (K : IdentK)

theorem mapping_sem (m : List (Yaml × Yaml)) (x : Expr) (h : parseMapping E ic m = .ok x)
    (hq : nqEntries m = true) : ∀ d, solveG E K d x = Tri.and (semEntries E ic K m d) :=
  (body_sem E ic K (fun es hes => entries_sem E ic K m es hes hq) h).1

theorem go_sem : ∀ (ys : List Yaml) (es : List Expr), ys.map (parseSeqItem E ic) = es.map .ok →
    (ys.all (fun y => match y with | .map m => nqEntries m | _ => true)) = true →
    ∀ d, es.map (solveG E K d) =
      ys.map (fun y => match y with | .map m => Tri.and (semEntries E ic K m d) | _ => .m)
  | [], [], _, _, _ => rfl
  | y :: rest, x :: xs, h, hq, d => by
    obtain ⟨hy, hrest⟩ := List.cons.inj h
    obtain ⟨hq1, hq2⟩ := Bool.and_eq_true_iff.mp hq
    cases y with
    | map m => exact congr (congrArg _ (mapping_sem E ic K m x hy hq1 d)) (go_sem rest xs hrest hq2 d)
    | _ => cases hy

/-- **The parser refines the documented meaning of identifiers.** For every identifier value
    without all()/of() keys that `parse_identifier` accepts, the three-valued result of the parsed
    expression on every document is the denotational semantics: a mapping is the conjunction of its
    entries in written order, a sequence of mappings their disjunction, a list under a key the
    disjunction of its members taken one at a time (whatever gets batched), a nested mapping is the
    body on the object / "some element" on an array, `not(k)` negates. Leaves mean what parser and
    solver make of them (`atomSem`, `memberAlone`): what is claimed is the shape. -/
theorem identifier_refines (y : Yaml) (e : Expr) (h : parseIdentifier E ic y = .ok e)
    (hq : nqIdent y = true) : ∀ d, solveG E K d e = semIdent E ic K y d := by
  cases y with
  | map m =>
    intro d
    exact mapping_sem E ic K m e (by simpa [parseIdentifier] using h) hq d
  | seq ys =>
    obtain ⟨es, rfl, hes⟩ := parseIdentifier_seq_ok h
    intro d
    rw [group_or_value, go_sem E ic K ys es hes hq d]
    rfl
  | _ => simp [parseIdentifier] at h

end

def rawLookup : List (Str × Yaml) → Str → Option Yaml
  | [], _ => none
  | (k, v) :: rest, key => if k == key then some v else rawLookup rest key

/-- Conditions without all()/of(). -/
def Cond.noQ : Cond → Bool
  | .id _ => true
  | .not c => c.noQ
  | .and a b => a.noQ && b.noQ
  | .or a b => a.noQ && b.noQ
  | .all _ => false
  | .of _ _ => false

theorem cons_lookup (E : RegexEngine) (ic : Bool) (pre ids : Ids) (raw : List (Str × Yaml))
    (h : C14.Cons E ic pre ids raw) (i : Str) :
    match rawLookup raw i with
    | some y => (i, y) ∈ raw ∧ ∃ b, lookupId ids i = some b ∧ parseIdentifier E ic y = .ok b
    | none => lookupId ids i = none := by
  fun_induction C14.Cons E ic pre ids raw
  case case1 => rfl
  case case2 pre k e ids k' v raw ih =>
    obtain ⟨rfl, h2, _, _, h5⟩ := h
    have ih := ih h5
    -- by `rfl`: rewriting with the functions' names would generate their equation lemmas here
    have e1 : rawLookup ((k, v) :: raw) i = if k == i then some v else rawLookup raw i := rfl
    have e2 : lookupId ((k, e) :: ids) i = if k == i then some e else lookupId ids i := rfl
    rw [e1, e2]
    cases hk : k == i
    · cases hr : rawLookup raw i with
      | none => rw [hr] at ih; exact ih
      | some y => rw [hr] at ih; exact ⟨List.mem_cons_of_mem _ ih.1, ih.2⟩
    · exact ⟨eq_of_beq hk ▸ List.mem_cons_self, e, rfl, h2⟩
  case case3 => exact h.elim

theorem noQ_quantified (c : Cond) (h : c.noQ = true) : c.quantified = [] := by
  induction c with
  | id _ => rfl
  | not c ih => exact ih h
  | and a b iha ihb | or a b iha ihb =>
    obtain ⟨ha, hb⟩ := Bool.and_eq_true_iff.mp h
    exact List.append_eq_nil_iff.mpr ⟨iha ha, ihb hb⟩
  | all _ | of _ _ => cases h

theorem loaded_ident_value (E : RegexEngine) (ic : Bool) (entries : List (Str × Yaml)) (det : Detection)
    (h : loadDetection E ic entries = .ok det) (hids : ∀ p ∈ det.idsRaw, nqIdent p.2 = true)
    (doc : Doc) (i : Str) :
    solveTop E det.ids doc (.ident i) =
      match rawLookup det.idsRaw i with
      | some y => semIdent E ic closedK y doc
      | none => .m := by
  show (match lookupId det.ids i with | some b => solveClosed E doc b | none => .m) = _
  have hl := cons_lookup E ic [] det.ids det.idsRaw (C14.loaded_cons E ic entries det h) i
  cases hr : rawLookup det.idsRaw i with
  | none => rw [hr] at hl; rw [hl]
  | some y =>
    rw [hr] at hl
    obtain ⟨hm, b, h1, h3⟩ := hl
    rw [h1]
    exact identifier_refines E ic closedK y b h3 (hids (i, y) hm) doc

/-- **A loaded rule means what its text says.** For a detection block that loads, whose condition
    uses identifiers with and/or/not and whose identifier values use no all()/of() keys: on every
    document the three-valued result of the rule is the documented table of the condition applied
    to the denotational semantics of the identifier values as written (`semIdent` on the raw YAML). -/
theorem rule_refines (E : RegexEngine) (ic : Bool) (entries : List (Str × Yaml)) (det : Detection)
    (h : loadDetection E ic entries = .ok det) (c : Cond) (hc : det.expr = c.toExpr) (hnq : c.noQ = true)
    (hids : ∀ p ∈ det.idsRaw, nqIdent p.2 = true) (doc : Doc) :
    solveTop E det.ids doc det.expr =
      Spec.cond (fun i => match rawLookup det.idsRaw i with
                          | some y => semIdent E ic closedK y doc
                          | none => .m) (fun _ => []) c := by
  rw [hc]
  refine cond_refines_on E det.ids doc c _ _ (loaded_ident_value E ic entries det h hids doc) ?_
  rw [noQ_quantified c hnq]
  exact fun i hi => nomatch hi

section
variable (E : RegexEngine) (ic : Bool) (K : IdentK)

/-- The top-level entries of an identifier value as all(X) / of(X, n) count them: the entries of a
    mapping with at least two entries (in written order), the mappings of a sequence. `none`: the
    identifier is not a list of entries (a one-entry mapping stands for its entry; what the
    quantifiers do with that is C08's subject and its recorded finding). -/
def semTop (y : Yaml) (d : Doc) : Option (List Tri) :=
  match y with
  | .map (p :: q :: rest) => some (semEntries E ic K (p :: q :: rest) d)
  | .seq (a :: r) => some ((a :: r).map (fun y => match y with | .map m => Tri.and (semEntries E ic K m d) | _ => .m))
  | _ => none

/-- The identifier is a list of entries: where `semTop` is `some`. -/
def wide : Yaml → Bool
  | .map (_ :: _ :: _) => true
  | .seq (_ :: _) => true
  | _ => false

/-- **An identifier that is a list of entries parses to a group of exactly those entries**, each
    evaluating to the documented meaning of the entry as written. -/
theorem identifier_top_refines (y : Yaml) (e : Expr) (h : parseIdentifier E ic y = .ok e)
    (hq : nqIdent y = true) (hw : wide y = true) :
    ∃ op es, e = .group op es ∧ ∀ d, some (es.map (solveG E K d)) = semTop E ic K y d := by
  revert hw
  fun_cases wide y <;> intro hw
  case case1 p q rest =>
    obtain ⟨es, hes, hsh⟩ := finishMapping_ok (r := parseEntries E ic (p :: q :: rest)) h
    obtain ⟨h1, _⟩ := entries_sem E ic K _ es hes hq
    have hlen := congrArg List.length (parseEntries_ok_map hes)
    rcases hsh with rfl | rfl
    · simp at hlen
    · exact ⟨.and, es, rfl, fun d => congrArg some (h1 d)⟩
  case case2 a r =>
    obtain ⟨es, rfl, hes⟩ := parseIdentifier_seq_ok h
    exact ⟨.or, es, rfl, fun d => congrArg some (go_sem E ic K (a :: r) es hes hq d)⟩
  case case3 => cases hw

end

/-- **A loaded rule means what its text says — with all(X) and of(X, n) in the condition.** As
    `rule_refines`, for EVERY condition of the language: identifiers under a quantifier have to be
    lists of entries (`wide`: a mapping with at least two entries, or a sequence of mappings), and
    the quantifier then counts the documented meanings of those entries as written. -/
theorem rule_refines_quantified (E : RegexEngine) (ic : Bool) (entries : List (Str × Yaml)) (det : Detection)
    (h : loadDetection E ic entries = .ok det) (c : Cond) (hc : det.expr = c.toExpr)
    (hids : ∀ p ∈ det.idsRaw, nqIdent p.2 = true)
    (hwide : ∀ i ∈ c.quantified, ∃ y, rawLookup det.idsRaw i = some y ∧ wide y = true) (doc : Doc) :
    solveTop E det.ids doc det.expr =
      Spec.cond (fun i => match rawLookup det.idsRaw i with
                          | some y => semIdent E ic closedK y doc
                          | none => .m)
                (fun i => match rawLookup det.idsRaw i with
                          | some y => (semTop E ic closedK y doc).getD []
                          | none => []) c := by
  rw [hc]
  refine cond_refines_on E det.ids doc c _ _ (loaded_ident_value E ic entries det h hids doc) fun i hi => ?_
  obtain ⟨y, hy, hw⟩ := hwide i hi
  have hl := cons_lookup E ic [] det.ids det.idsRaw (C14.loaded_cons E ic entries det h) i
  rw [hy] at hl
  obtain ⟨hm, b, h1, h3⟩ := hl
  obtain ⟨op, es, rfl, hs⟩ := identifier_top_refines E ic closedK y b h3 (hids (i, y) hm) hw
  have he : es.map (solveClosed E doc) = (semTop E ic closedK y doc).getD [] := by
    rw [← hs doc, Option.getD_some]; rfl
  simp only [hy, ← he]
  exact entries_of_group E det.ids doc i op es h1

/-- Non-vacuity: a sequence of two mappings and a two-entry mapping meet the hypotheses. -/
example :
    let X : Yaml := .seq [.map [(.str "a".toList, .str "x".toList)], .map [(.str "b".toList, .num (.int 2)), (.str "c".toList, .str "y*".toList)]]
    let M : Yaml := .map [(.str "a".toList, .str "x".toList), (.str "not(b)".toList, .seq [.str "p".toList, .str "?q".toList])]
    wide X = true ∧ nqIdent X = true ∧ wide M = true ∧ nqIdent M = true ∧
    (Cond.or (.of "X".toList 2) (.not (.all "M".toList))).quantified = ["X".toList, "M".toList] := by
  -- the keys go through the tokeniser and the Pratt parser: the kernel evaluates that some forty
  -- times cheaper than the elaborator's `decide`/`rfl`
  decide +kernel

end Tau.C02
