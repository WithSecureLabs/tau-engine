import Tau.Proofs.MappingSafe
import Tau.Proofs.MatrixSafe
import Tau.Proofs.IdentScan
/-
  C03 — An accepted rule can always be evaluated (no panic after load):
  `load_then_match_never_panics` and, for every switch combination, `load_optimise_match_never_panics`.
  Both go through `SafeRule` (what the solver cannot panic on).  The theorems that take `hdef` besides
  `h` are the same statements with `loaded_idents_defined` not yet applied.
-/
namespace Tau.C03
open Tau

/-- Every operand of `and` / `or` accepted by the parser is itself a predicate. -/
theorem led_bool_operands (op : BoolSym) (hop : op = .and ∨ op = .or) (l r : Expr)
    (h : ledCheck op l r = .ok ()) : l.isSolvable = true ∧ r.isSolvable = true :=
  (ledCheck_ok h).imp (·.mpr hop) (·.mpr hop)

/-- The operand of `not` accepted by the parser is a predicate. -/
theorem negatable_solvable (e : Expr) (h : negatable e = true) : e.isSolvable = true ∨ (∃ b, e = .bool b) := by
  cases e with
  | bool b => exact .inr ⟨b, rfl⟩
  | cast | field | float | int | null | matrix => cases h
  | _ => exact .inl rfl

/-- Comparison operands accepted by the parser are casts or literals (never predicates), so the
    solver's operand extraction never reaches its "invalid operand" arm with a predicate. -/
theorem led_cmp_operands (op : BoolSym) (hop : op ≠ .and ∧ op ≠ .or) (l r : Expr)
    (h : ledCheck op l r = .ok ()) : l.isSolvable = false ∧ r.isSolvable = false :=
  have hop : ¬(op = .and ∨ op = .or) := (·.elim hop.1 hop.2)
  (ledCheck_ok h).imp (Bool.eq_false_iff.mpr <| mt ·.mp hop) (Bool.eq_false_iff.mpr <| mt ·.mp hop)

/-- A rule that loads has a solvable condition: a condition that is a bare literal, cast or field
    is rejected at load time. -/
theorem load_solvable (E : RegexEngine) (ic : Bool) (entries : List (Str × Yaml)) (d : Detection)
    (h : loadDetection E ic entries = .ok d) : d.expr.isSolvable = true :=
  let ⟨_, _, _, _, hs⟩ := loadDetection_cond h; hs

/-- A rule that loads mentions only identifiers that exist (the scan of rule.rs:104-125). -/
theorem load_idents_present (E : RegexEngine) (ic : Bool) (entries : List (Str × Yaml)) (d : Detection)
    (h : loadDetection E ic entries = .ok d) :
    ∃ tokens, tokenise d.condRaw = .ok tokens ∧ identsPresent d.ids tokens = true :=
  let ⟨tokens, ht, hp, _⟩ := loadDetection_cond h; ⟨tokens, ht, hp⟩

def condResult (s : String) : Except Err Expr :=
  match tokenise s.toList with
  | .ok ts => parse ts
  | .error e => .error e

def rejectedWith (r : Except Err Expr) (e : Err) : Bool :=
  match r with
  | .error e' => e' == e
  | .ok _ => false

/-- Everything the condition parser returns is built from identifiers, all()/of() over
    identifiers, casts and literals by `not`, `and`, `or` and comparisons; the operands of
    `and`/`or`/`not` are predicates and the operands of comparisons are casts/literals. -/
theorem parsed_condition_shape (ts : List Token) (e : Expr) (h : parse ts = .ok e) : PShape e :=
  parse_shape ts e h

theorem loaded_condition_shape (E : RegexEngine) (ic : Bool) (entries : List (Str × Yaml)) (d : Detection)
    (h : loadDetection E ic entries = .ok d) : PShape d.expr ∧ d.expr.isSolvable = true :=
  loadDetection_shape h

/-- **Every identifier the condition of a loaded rule mentions exists** — the property's own clause,
    with no side condition: each identifier of the tree the Pratt parser built (bare, under `not`,
    `and`/`or`, `all(..)` / `of(.., n)`) has a body in the detection block.  The loader scans TOKEN
    positions (rule.rs:104-125); that this covers every identifier of the TREE is
    `parse_idents_scanned`. -/
theorem loaded_idents_defined (E : RegexEngine) (ic : Bool) (entries : List (Str × Yaml)) (d : Detection)
    (h : loadDetection E ic entries = .ok d) :
    ∀ i ∈ condIdents d.expr, (lookupId d.ids i).isSome = true :=
  let ⟨tokens, _, hp, he, _⟩ := loadDetection_cond h
  fun i hi => identsPresent_scan d.ids tokens hp i (parse_idents_scanned tokens d.expr he i hi)

/-- The conditions the unrepaired source accepted and then panicked on are load errors. -/
example :
    rejectedWith (condResult "A and 1") .parseLedFollowing = true ∧
    rejectedWith (condResult "A or int(foo)") .parseLedFollowing = true ∧
    rejectedWith (condResult "A and not(B)") .parseLedFollowing = true ∧
    rejectedWith (condResult "A and B") .parseLedFollowing = false := by
  decide +kernel

theorem loaded_condition_safe (E : RegexEngine) (ic : Bool) (entries : List (Str × Yaml)) (d : Detection)
    (h : loadDetection E ic entries = .ok d)
    (hdef : ∀ i ∈ condIdents d.expr, (lookupId d.ids i).isSome = true) :
    safe (fun i => (lookupId d.ids i).isSome) d.expr = true := by
  obtain ⟨hshape, hsolv⟩ := loaded_condition_shape E ic entries d h
  exact pshape_safe _ d.expr hshape hsolv hdef

/-- A well-formed matrix (what `matrix()` builds: rows no wider than the columns, cell `i` keyed by
    the synthetic key of column `i`, fewer than 0xD800 columns) is safe to evaluate. -/
example : safe (fun _ => false)
    (.matrix [['a'], ['b']] [[some (.search (.exact ['x']) (colKey 0) false), none],
                             [none, some (.bin (.field (colKey 1)) .eq (.int 1))]]) = true := by decide

/-- …and a cell keyed by a real field name (what the unrepaired matrix built for a comparison of
    two casts) is not. -/
example : safe (fun _ => false)
    (.matrix [['a']] [[some (.bin (.cast (colKey 0) .int) .eq (.cast ['b'] .int))]]) = false := by decide

theorem lookup_mem (ids : Ids) (i : Str) (b : Expr) (h : lookupId ids i = some b) : (i, b) ∈ ids :=
  lookupId_mem h

theorem loaded_bodies_safe (E : RegexEngine) (ic : Bool) (entries : List (Str × Yaml)) (d : Detection)
    (h : loadDetection E ic entries = .ok d) :
    ∀ i b, lookupId d.ids i = some b → safe nod b = true :=
  loadDetection_bodies (parseIdentifier_safe E ic) h

/-- A rule state the solver cannot panic on: safe closed bodies, condition safe w.r.t. them.
    (`nod` is the `fun _ => false` of the statements below.) -/
def SafeRule (p : Expr × Ids) : Prop :=
  (∀ i b, lookupId p.2 i = some b → safe nod b = true) ∧
  safe (fun i => (lookupId p.2 i).isSome) p.1 = true

theorem SafeRule.never_panics (E : RegexEngine) {p : Expr × Ids} (h : SafeRule p) (doc : Doc) (hd : NoFP doc) :
    hitsTop E p.2 doc p.1 = false :=
  top_no_hits E p.2 doc hd p.1 h.1 h.2

theorem SafeRule.pass (g : Expr → Expr) (hg : ∀ defd e, safe defd e = true → safe defd (g e) = true)
    {e : Expr} {ids : Ids} (h : SafeRule (e, ids)) : SafeRule (g e, ids.map (fun p => (p.1, g p.2))) := by
  refine ⟨fun i b hl => ?_, ?_⟩
  · rw [lookup_map] at hl
    obtain ⟨b0, hl', rfl⟩ := Option.map_eq_some_iff.mp hl
    exact hg nod b0 (h.1 i b0 hl')
  · simp only [lookup_map, Option.isSome_map]
    exact hg _ e h.2

section
variable {E : RegexEngine} {ic : Bool} {entries : List (Str × Yaml)} {d : Detection}

theorem SafeRule.loaded (h : loadDetection E ic entries = .ok d)
    (hdef : ∀ i ∈ condIdents d.expr, (lookupId d.ids i).isSome = true := loaded_idents_defined E ic entries d h) :
    SafeRule (d.expr, d.ids) :=
  ⟨loaded_bodies_safe E ic entries d h, loaded_condition_safe E ic entries d h hdef⟩

/-- After coalesce no identifier is left; the defined identifiers of `[]` are `nod`. -/
theorem SafeRule.coalesced (h : loadDetection E ic entries = .ok d)
    (hdef : ∀ i ∈ condIdents d.expr, (lookupId d.ids i).isSome = true := loaded_idents_defined E ic entries d h) :
    SafeRule (coalesce d.ids d.expr, []) :=
  have nod_eq : (fun i => (lookupId ([] : Ids) i).isSome) = nod := funext fun _ => rfl
  let ⟨hshape, hsolv⟩ := loadDetection_shape h
  ⟨fun _ _ hl => (nomatch hl),
    nod_eq ▸ coalesce_safe d.ids d.expr hshape hsolv hdef (loaded_bodies_safe E ic entries d h)⟩

theorem SafeRule.optimised (sw : Switches) (h : loadDetection E ic entries = .ok d)
    (hdef : ∀ i ∈ condIdents d.expr, (lookupId d.ids i).isSome = true := loaded_idents_defined E ic entries d h) :
    SafeRule (optimiseTree E sw d.ids d.expr) := by
  have hopt : ∀ defd e, safe defd e = true → safe defd (C01.optBody E sw.shake sw.rewrite sw.matrix e) = true :=
    fun defd => optBody_keeps E (shake_safe defd) (rewrite_safe E defd) (fun e => matrix_safe defd _ e)
  rw [optimiseTree_eq]
  refine SafeRule.pass _ hopt ?_
  split
  · exact SafeRule.coalesced h hdef
  · exact SafeRule.loaded h hdef

end

theorem noFP_yamlDoc {y : Yaml} {d : Doc} (hd : yamlDoc? y = some d) : NoFP d := by
  obtain ⟨kvs, rfl⟩ := yamlDoc_obj y d hd
  exact noFP_obj kvs

/-- **Matching never panics on a safe rule**, whatever value kinds the document returns: `d` is a
    mapping or an ARBITRARY user document (`Doc.user g`, any function). `hitsTop` is true exactly
    when evaluation reaches `unreachable!()`, an undefined identifier or an out-of-range access of
    the matrix cache (Tau/Safe.lean). -/
theorem safe_rule_never_panics (E : RegexEngine) (ids : Ids) (g : Str → Option Value) (e : Expr)
    (hbodies : ∀ i b, lookupId ids i = some b → safe (fun _ => false) b = true)
    (he : safe (fun i => (lookupId ids i).isSome) e = true) :
    hitsTop E ids (.user g) e = false :=
  SafeRule.never_panics E (p := (e, ids)) ⟨hbodies, he⟩ _ (noFP_user g)

theorem safe_rule_never_panics_mapping (E : RegexEngine) (ids : Ids) (kvs : List (Str × Value)) (e : Expr)
    (hbodies : ∀ i b, lookupId ids i = some b → safe (fun _ => false) b = true)
    (he : safe (fun i => (lookupId ids i).isSome) e = true) :
    hitsTop E ids (.obj kvs) e = false :=
  SafeRule.never_panics E (p := (e, ids)) ⟨hbodies, he⟩ _ (noFP_obj kvs)

/-- **If loading succeeds, matching never panics** — for the unoptimised rule, against any user
    document (any value kinds), provided the identifiers the condition mentions exist
    (`loaded_idents_defined`). -/
theorem loaded_rule_never_panics (E : RegexEngine) (ic : Bool) (entries : List (Str × Yaml)) (d : Detection)
    (h : loadDetection E ic entries = .ok d)
    (hdef : ∀ i ∈ condIdents d.expr, (lookupId d.ids i).isSome = true) (g : Str → Option Value) :
    hitsTop E d.ids (.user g) d.expr = false :=
  (SafeRule.loaded h hdef).never_panics E _ (noFP_user g)

theorem coalesce_shake0_never_panics (E : RegexEngine) (ic : Bool) (entries : List (Str × Yaml))
    (d : Detection) (h : loadDetection E ic entries = .ok d)
    (hdef : ∀ i ∈ condIdents d.expr, (lookupId d.ids i).isSome = true) (fuel : Nat) (g : Str → Option Value) :
    hitsTop E [] (.user g) (rewrite E (shake0 fuel (coalesce d.ids d.expr))) = false :=
  (SafeRule.pass (fun e => rewrite E (shake0 fuel e))
    (fun defd e hs => rewrite_safe E defd _ (shake0_safe defd fuel e hs))
    (SafeRule.coalesced h hdef)).never_panics E _ (noFP_user g)

/-- **Optimised rules never panic either — for every one of the 16 switch combinations.**
    coalesce, shake (both halves), rewrite and matrix keep the rule inside `safe` (for the matrix
    node see Tau/Proofs/MatrixSafe.lean). -/
theorem optimised_never_panics (E : RegexEngine) (ic : Bool) (entries : List (Str × Yaml))
    (d : Detection) (h : loadDetection E ic entries = .ok d)
    (hdef : ∀ i ∈ condIdents d.expr, (lookupId d.ids i).isSome = true)
    (sw : Switches) (g : Str → Option Value) :
    let o := optimiseTree E sw d.ids d.expr
    hitsTop E o.2 (.user g) o.1 = false :=
  (SafeRule.optimised sw h hdef).never_panics E _ (noFP_user g)

/-- **Optimised with coalesce (and optionally rewrite): matching never panics.** -/
theorem optimised_coalesce_rewrite_never_panics (E : RegexEngine) (ic : Bool) (entries : List (Str × Yaml))
    (d : Detection) (h : loadDetection E ic entries = .ok d)
    (hdef : ∀ i ∈ condIdents d.expr, (lookupId d.ids i).isSome = true) (rw : Bool) (g : Str → Option Value) :
    let o := optimiseTree E ⟨true, false, rw, false⟩ d.ids d.expr
    hitsTop E o.2 (.user g) o.1 = false :=
  optimised_never_panics E ic entries d h hdef ⟨true, false, rw, false⟩ g

/-- **If loading succeeds, matching never panics** — no side condition. -/
theorem load_then_match_never_panics (E : RegexEngine) (ic : Bool) (entries : List (Str × Yaml)) (d : Detection)
    (h : loadDetection E ic entries = .ok d) (g : Str → Option Value) :
    hitsTop E d.ids (.user g) d.expr = false :=
  (SafeRule.loaded h).never_panics E _ (noFP_user g)

/-- **If loading succeeds, matching the rule optimised with ANY of the 16 switch combinations never
    panics** — no side condition. -/
theorem load_optimise_match_never_panics (E : RegexEngine) (ic : Bool) (entries : List (Str × Yaml))
    (d : Detection) (h : loadDetection E ic entries = .ok d) (sw : Switches) (g : Str → Option Value) :
    let o := optimiseTree E sw d.ids d.expr
    hitsTop E o.2 (.user g) o.1 = false :=
  (SafeRule.optimised sw h).never_panics E _ (noFP_user g)

/-- The skipped position matters: `int(A) > 1` with no identifier `A` loads (A is a field there)… -/
example : identsPresent [] [.modifier .int, .lparen, .ident ['A'], .rparen, .op .gt, .int 1] = true := by decide
/-- …while `A` on its own, or under `all(..)`, is refused when undefined. -/
example : identsPresent [] [.ident ['A']] = false := by decide
example : identsPresent [] [.matchAll, .lparen, .ident ['A'], .rparen] = false := by decide

end Tau.C03
