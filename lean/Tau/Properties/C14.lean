import Tau.Proofs.Rule
/-
  C14 — Rule serialisation round-trips (partial: serde_yaml's emit/parse of the raw values is an
  external crate, assumed `parse (emit v) = v` and exercised by the correspondence run on
  quoting-sensitive strings).
-/
namespace Tau.C14
open Tau

/-- `raw` re-parses to `ids`, key by key, in order; no key is `condition`; every key is new after
    `pre` (those already loaded) and the keys before it.  (`Tau.Cons` of Proofs/MatrixTruth.lean is
    another notion.) -/
def Cons (E : RegexEngine) (ic : Bool) : Ids → Ids → List (Str × Yaml) → Prop
  | _, [], [] => True
  | pre, (k, e) :: ids, (k', v) :: raw =>
    k = k' ∧ parseIdentifier E ic v = .ok e ∧ (k == condKey) = false ∧ lookupId pre k = none ∧
      Cons E ic (pre ++ [(k, e)]) ids raw
  | _, _, _ => False

theorem cons_snoc (E : RegexEngine) (ic : Bool) (pre ids : Ids) (raw : List (Str × Yaml)) (k : Str)
    (e : Expr) (v : Yaml) (h : Cons E ic pre ids raw) (hp : parseIdentifier E ic v = .ok e)
    (hk : (k == condKey) = false) (hl : lookupId (pre ++ ids) k = none) :
    Cons E ic pre (ids ++ [(k, e)]) (raw ++ [(k, v)]) := by
  fun_induction Cons E ic pre ids raw
  case case1 => exact ⟨rfl, hp, hk, by simpa using hl, trivial⟩
  case case2 ih =>
    obtain ⟨h1, h2, h3, h4, h5⟩ := h
    exact ⟨h1, h2, h3, h4, ih h5 (by simpa using hl)⟩
  case case3 => exact h.elim

theorem loadEntries_cons (E : RegexEngine) (ic : Bool) (entries : List (Str × Yaml)) (st st' : LoadSt)
    (hst : Cons E ic [] st.ids st.idsRaw) (h : loadEntries E ic entries st = .ok st') :
    Cons E ic [] st'.ids st'.idsRaw :=
  loadEntries_invariant (Cons E ic [])
    (fun ids raw k v e hst hk hl he => cons_snoc E ic [] ids raw k e v hst he hk (by simpa using hl))
    entries hst h

theorem loaded_cons (E : RegexEngine) (ic : Bool) (entries : List (Str × Yaml)) (d : Detection)
    (h : loadDetection E ic entries = .ok d) : Cons E ic [] d.ids d.idsRaw :=
  loadEntries_cons E ic entries {} _ trivial (loadDetection_iff.mp h).1

theorem reload_entries (E : RegexEngine) (ic : Bool) (ids : Ids) (raw : List (Str × Yaml)) (pre : Ids)
    (praw : List (Str × Yaml)) (c : Option Str) (hc : Cons E ic pre ids raw) :
    loadEntries E ic raw { ids := pre, idsRaw := praw, cond := c } =
      .ok { ids := pre ++ ids, idsRaw := praw ++ raw, cond := c } := by
  fun_induction Cons E ic pre ids raw generalizing praw
  case case1 =>
    rw [List.append_nil, List.append_nil]
    rfl
  case case2 pre k e ids k' v raw ih =>
    obtain ⟨rfl, h2, h3, h4, h5⟩ := hc
    rw [loadEntries_step, loadStep_ident h3 h4 h2, ok_bind, ih _ h5, List.append_assoc, List.append_assoc]
    rfl
  case case3 => exact hc.elim

/-- If a detection block loads, what `Serialize` emits for it (the raw condition, then the raw
    identifiers in their stored order) loads again, to the same condition tree, identifiers and raw
    data — hence the same verdict on every document. Examples and the `optimised` flag are carried
    verbatim by `Rule.serialise`. -/
theorem load_serialise (E : RegexEngine) (ic : Bool) (entries : List (Str × Yaml)) (d : Detection)
    (h : loadDetection E ic entries = .ok d) :
    loadDetection E ic ((condKey, .str d.condRaw) :: d.idsRaw) = .ok d := by
  refine loadDetection_iff.mpr ⟨?_, (loadDetection_iff.mp h).2⟩
  rw [loadEntries_step, loadStep_cond (beq_self_eq_true _) rfl rfl]
  exact reload_entries E ic d.ids d.idsRaw [] [] _ (loaded_cons E ic entries d h)

theorem serialise_carries (r : Rule) (ord : List (Str × Yaml)) :
    (r.serialise ord).tps = r.tps ∧ (r.serialise ord).tns = r.tns ∧ (r.serialise ord).optimised = r.optimised :=
  ⟨rfl, rfl, rfl⟩

/-- What is serialised never depends on the optimised tree: an optimised rule serialises the same
    detection source as the rule it was optimised from. -/
theorem optimised_serialises_same_source (E : RegexEngine) (sw : Switches) (r : Rule) (ord : List (Str × Yaml)) :
    ((r.optimise E sw).serialise ord).det = (r.serialise ord).det := by
  unfold Rule.optimise Rule.serialise
  by_cases h : r.optimised <;> simp [h]

/-- Two loader states the rest of the loader cannot tell apart. -/
def StEq (a b : LoadSt) : Prop := (∀ i, lookupId a.ids i = lookupId b.ids i) ∧ a.cond = b.cond

theorem StEq.refl (a : LoadSt) : StEq a a := ⟨fun _ => rfl, rfl⟩
theorem StEq.symm {a b : LoadSt} (h : StEq a b) : StEq b a := ⟨fun i => (h.1 i).symm, h.2.symm⟩
theorem StEq.trans {a b c : LoadSt} (h : StEq a b) (h' : StEq b c) : StEq a c :=
  ⟨fun i => (h.1 i).trans (h'.1 i), h.2.trans h'.2⟩

/-- How the loader's outcomes on two orders of the entries compare. The errors are not compared:
    which entry fails first depends on the order. -/
def Rel (a b : Except Err LoadSt) : Prop :=
  match a, b with
  | .ok s, .ok s' => StEq s s'
  | .error _, .error _ => True
  | _, _ => False

theorem Rel.refl (a : Except Err LoadSt) : Rel a a := by
  cases a <;> simp [Rel, StEq.refl]

theorem Rel.trans {a b c : Except Err LoadSt} (h : Rel a b) (h' : Rel b c) : Rel a c := by
  cases a <;> cases b <;> cases c <;> simp_all [Rel]
  exact StEq.trans h h'

theorem Rel.symm {a b : Except Err LoadSt} (h : Rel a b) : Rel b a := by
  cases a <;> cases b <;> simp_all [Rel]
  exact StEq.symm h

theorem Rel.bind {a b : Except Err LoadSt} {f g : LoadSt → Except Err LoadSt} (h : Rel a b)
    (hfg : ∀ {s s'}, StEq s s' → Rel (f s) (g s')) : Rel (a >>= f) (b >>= g) := by
  cases a <;> cases b <;> first | exact h.elim | trivial | exact hfg h

/-- It is enough to look at the successful outcomes, from both sides. -/
theorem Rel.of_ok {a b : Except Err LoadSt} (h : ∀ s, a = .ok s → ∃ s', b = .ok s' ∧ StEq s s')
    (h' : ∀ s, b = .ok s → ∃ s', a = .ok s' ∧ StEq s s') : Rel a b := by
  cases a with
  | ok s =>
    obtain ⟨_, rfl, hs⟩ := h s rfl
    exact hs
  | error _ =>
    cases b with
    | error _ => trivial
    | ok s =>
      obtain ⟨_, h, _⟩ := h' s rfl
      cases h

/-- The guards read the condition and one lookup, the same in both states. -/
theorem loadStep_ok_congr {E : RegexEngine} {ic : Bool} {x : Str × Yaml} {st st' s : LoadSt} (h : StEq st st')
    (hs : loadStep E ic x st = .ok s) : ∃ s', loadStep E ic x st' = .ok s' ∧ StEq s s' := by
  rcases loadStep_ok hs with ⟨hk, hc, t, ht, rfl⟩ | ⟨hk, hl, e, he, rfl⟩
  · exact ⟨_, loadStep_cond hk (h.2 ▸ hc) ht, h.1, rfl⟩
  · exact ⟨_, loadStep_ident hk (h.1 _ ▸ hl) he, fun i => by simp only [lookupId_append, h.1 i], h.2⟩

theorem loadStep_congr (E : RegexEngine) (ic : Bool) (x : Str × Yaml) {st st' : LoadSt} (h : StEq st st') :
    Rel (loadStep E ic x st) (loadStep E ic x st') :=
  .of_ok (fun _ => loadStep_ok_congr h) (fun _ => loadStep_ok_congr h.symm)

theorem loadEntries_congr (E : RegexEngine) (ic : Bool) :
    ∀ (l : List (Str × Yaml)) {st st' : LoadSt}, StEq st st' → Rel (loadEntries E ic l st) (loadEntries E ic l st')
  | [], _, _, h => h
  | x :: l, _, _, h => by
    rw [loadEntries_step, loadEntries_step]
    exact (loadStep_congr E ic x h).bind (loadEntries_congr E ic l)

def step2 (E : RegexEngine) (ic : Bool) (a b : Str × Yaml) (st : LoadSt) : Except Err LoadSt :=
  match loadStep E ic a st with
  | .error e => .error e
  | .ok s => loadStep E ic b s

theorem step2_eq (E : RegexEngine) (ic : Bool) (a b : Str × Yaml) (st : LoadSt) :
    step2 E ic a b st = loadStep E ic a st >>= loadStep E ic b := by
  unfold step2; cases loadStep E ic a st <;> rfl

theorem lookupId_append_none {ids : Ids} {k i : Str} {e : Expr} :
    lookupId (ids ++ [(k, e)]) i = none ↔ lookupId ids i = none ∧ (k == i) = false := by
  rw [lookupId_append]
  cases lookupId ids i <;> cases k == i <;> simp

/-- A lookup sees two appended entries in either order unless `i` is both names. -/
theorem lookupId_swap (ids : Ids) {a b : Str} (ea eb : Expr) (h : (a == b) = false) (i : Str) :
    lookupId (ids ++ [(a, ea)] ++ [(b, eb)]) i = lookupId (ids ++ [(b, eb)] ++ [(a, ea)]) i := by
  simp only [lookupId_append]
  cases lookupId ids i with
  | some _ => rfl
  | none =>
    cases ha : a == i with
    | false => cases b == i <;> rfl
    | true =>
      cases eq_of_beq ha
      rw [BEq.comm (a := b), h]
      rfl

/-- The two steps touch different components of the state, or two different identifier names. -/
theorem step2_ok_swap (E : RegexEngine) (ic : Bool) (x y : Str × Yaml) (st s : LoadSt)
    (h : step2 E ic x y st = .ok s) : ∃ s', step2 E ic y x st = .ok s' ∧ StEq s s' := by
  simp only [step2_eq, bind_eq_ok] at h ⊢
  obtain ⟨s1, hx, h⟩ := h
  rcases loadStep_ok hx with ⟨hkx, hcx, sx, hsx, rfl⟩ | ⟨hkx, hlx, ex, hex, rfl⟩ <;>
    rcases loadStep_ok h with ⟨hky, hcy, sy, hsy, rfl⟩ | ⟨hky, hly, ey, hey, rfl⟩
  · cases hcy
  · exact ⟨_, ⟨_, loadStep_ident (st := st) hky hly hey, loadStep_cond hkx hcx hsx⟩, StEq.refl _⟩
  · exact ⟨_, ⟨_, loadStep_cond (st := st) hky hcy hsy, loadStep_ident hkx hlx hex⟩, StEq.refl _⟩
  · -- two identifiers: `y`'s name is new after `x` went in, so it is new in `st` and is not `x`'s
    obtain ⟨hly, hxy⟩ := lookupId_append_none.mp hly
    exact ⟨_, ⟨_, loadStep_ident (st := st) hky hly hey,
        loadStep_ident hkx (lookupId_append_none.mpr ⟨hlx, BEq.comm.trans hxy⟩) hex⟩,
      lookupId_swap st.ids ex ey hxy, rfl⟩

theorem step2_swap (E : RegexEngine) (ic : Bool) (x y : Str × Yaml) (st : LoadSt) :
    Rel (step2 E ic x y st) (step2 E ic y x st) :=
  .of_ok (step2_ok_swap E ic x y st) (step2_ok_swap E ic y x st)

theorem loadEntries_two (E : RegexEngine) (ic : Bool) (x y : Str × Yaml) (l : List (Str × Yaml)) (st : LoadSt) :
    loadEntries E ic (x :: y :: l) st = step2 E ic x y st >>= loadEntries E ic l := by
  rw [loadEntries_step, step2_eq, bind_assoc]
  exact congrArg _ (funext fun s => loadEntries_step E ic y l s)

theorem loadEntries_perm (E : RegexEngine) (ic : Bool) {l l' : List (Str × Yaml)} (hp : l.Perm l') :
    ∀ {st st' : LoadSt}, StEq st st' → Rel (loadEntries E ic l st) (loadEntries E ic l' st') := by
  induction hp with
  | nil => exact id
  | cons x _ ih =>
    intro st st' h
    rw [loadEntries_step, loadEntries_step]
    exact (loadStep_congr E ic x h).bind ih
  | swap x y l =>
    intro st st' h
    refine (loadEntries_congr E ic _ h).trans ?_
    rw [loadEntries_two, loadEntries_two]
    exact (step2_swap E ic y x st').bind (loadEntries_congr E ic l)
  | trans _ _ ih1 ih2 => exact fun h => (ih1 h).trans (ih2 (StEq.refl _))

/-- Load does not depend on the order in which the detection entries arrive (which `Serialize`
    cannot promise: the identifiers live in a `HashMap`). If a detection block loads, every
    permutation of it loads, to the same condition tree and to identifiers with the same lookup —
    hence to the same three-valued result on every document. -/
theorem load_order_irrelevant (E : RegexEngine) (ic : Bool) (entries entries' : List (Str × Yaml))
    (hp : entries.Perm entries') (d : Detection) (h : loadDetection E ic entries = .ok d) :
    ∃ d', loadDetection E ic entries' = .ok d' ∧ d'.expr = d.expr ∧ d'.condRaw = d.condRaw ∧
      (∀ i, lookupId d'.ids i = lookupId d.ids i) ∧
      (∀ doc, solveTop E d'.ids doc d'.expr = solveTop E d.ids doc d.expr) := by
  obtain ⟨hst, tokens, ht, hi, hpa, hs⟩ := loadDetection_iff.mp h
  have hrel := loadEntries_perm E ic hp (StEq.refl ({} : LoadSt))
  rw [hst] at hrel
  cases hst' : loadEntries E ic entries' {} with
  | error e => rw [hst'] at hrel; exact hrel.elim
  | ok st' =>
    rw [hst'] at hrel
    obtain ⟨ids', raw', c'⟩ := st'
    obtain ⟨hl, hc⟩ : (∀ i, lookupId d.ids i = lookupId ids' i) ∧ some d.condRaw = c' := hrel
    subst hc
    refine ⟨{ d with ids := ids', idsRaw := raw' },
      loadDetection_iff.mpr ⟨hst', tokens, ht, ?_, hpa, hs⟩, rfl, rfl, fun i => (hl i).symm, fun doc => ?_⟩
    · rw [← hi]; exact identsPresent_congr (fun i => (hl i).symm) tokens
    · simp only [solveTop, topK, hl]

/-- Whatever order the serialiser emits the condition and the identifiers in, the emitted block
    loads again, to the same condition tree and the same identifier bodies, hence with the same
    three-valued result on every document. -/
theorem load_serialise_any_order (E : RegexEngine) (ic : Bool) (entries : List (Str × Yaml)) (d : Detection)
    (h : loadDetection E ic entries = .ok d) (emitted : List (Str × Yaml))
    (hp : ((condKey, Yaml.str d.condRaw) :: d.idsRaw).Perm emitted) :
    ∃ d', loadDetection E ic emitted = .ok d' ∧ d'.expr = d.expr ∧
      (∀ i, lookupId d'.ids i = lookupId d.ids i) ∧
      (∀ doc, solveTop E d'.ids doc d'.expr = solveTop E d.ids doc d.expr) := by
  obtain ⟨d', h1, h2, _, h4, h5⟩ :=
    load_order_irrelevant E ic _ emitted hp d (load_serialise E ic entries d h)
  exact ⟨d', h1, h2, h4, h5⟩

end Tau.C14
