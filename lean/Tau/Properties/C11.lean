import Tau.Rule
import Tau.Properties.C16
import Tau.Proofs.Signed
/-
  C11 — Verdict is independent of how the document is represented (partial: the adapters are Rust
  glue; their tie to the model is the correspondence run over four representations).
-/
namespace Tau.C11
open Tau

/-- YAML adapter: a non-negative integer is unsigned, a negative one signed. -/
theorem yaml_number_kinds (i : Int) :
    yamlToValue (.num (.int i)) = (if i ≥ 0 then .uint i.toNat else .int i) := by
  simp [yamlToValue]

theorem yaml_unsigned_value (i : Int) (h : i ≥ 0) : ∃ n : Nat, yamlToValue (.num (.int i)) = .uint n ∧ (n : Int) = i := by
  refine ⟨i.toNat, by simp [yamlToValue, h], Int.toNat_of_nonneg h⟩

theorem yaml_big_unsigned (n b : Nat) (s : Str) : yamlToValue (.num (.big n b s)) = .uint n := by
  simp [yamlToValue]

/-- A float stays a float with its bit pattern; strings, booleans and null map to themselves. -/
theorem yaml_scalars (s : Str) (b : Bool) (bits : Nat) (shown : Str) :
    yamlToValue (.str s) = .str s ∧ yamlToValue (.bool b) = .bool b ∧ yamlToValue .null = .null ∧
    yamlToValue (.num (.flt bits shown)) = .flt bits shown := by
  simp [yamlToValue]

/-- A string predicate over an array ("some element") does not depend on the order of the
    elements; this is the form the per-needle counting paths of `all()` / `of()` use. -/
theorem count_array_perm (c : Bool) (p : Str → Bool) (a a' : List Value) (h : a.Perm a') :
    onFieldValue c p (.arr a) = onFieldValue c p (.arr a') := by
  simp only [onFieldValue, h.any_eq]

/-- For a search: a `Vec` and a `HashSet` holding the same elements give the same result. -/
theorem search_array_perm (E : RegexEngine) (s : Search) (c : Bool) (a a' : List Value) (h : a.Perm a') :
    onFieldValue c (searchStr E s) (.arr a) = onFieldValue c (searchStr E s) (.arr a') :=
  count_array_perm c _ a a' h

theorem elemObjs_perm (a a' : List Value) (h : a.Perm a') : (elemObjs a).Perm (elemObjs a') := by
  unfold elemObjs
  exact h.filterMap _

/-- A plain nested block over an array of objects does not depend on the order of the elements. -/
theorem nested_plain_array_perm (E : RegexEngine) (K : IdentK) (d d' : Doc) (f : Str) (a a' : List Value)
    (x : Expr) (hx : nestedSpecial x = false) (h : a.Perm a')
    (hd : d.find f = some (.arr a)) (hd' : d'.find f = some (.arr a')) :
    solveG E K d (.nested f x) = solveG E K d' (.nested f x) := by
  rw [nested_generic E K d f x hx, nested_generic E K d' f x hx, hd, hd']
  exact congrArg Tri.ofBool (elemObjs_perm a a' h).any_eq

theorem nested_array_perm (E : RegexEngine) (K : IdentK) (d d' : Doc) (f : Str) (a a' : List Value)
    (s : Search) (k : Str) (c : Bool) (h : a.Perm a')
    (hd : d.find f = some (.arr a)) (hd' : d'.find f = some (.arr a')) :
    solveG E K d (.nested f (.search s k c)) = solveG E K d' (.nested f (.search s k c)) :=
  nested_plain_array_perm E K d d' f a a' _ rfl h hd hd'

/-- The solver sees a document only through `find`: two documents of ANY representation whose
    `find` functions agree are the same document to the model (leaf level: a search depends on
    nothing but the value `find` returns). -/
theorem search_congr (E : RegexEngine) (d d' : Doc) (s : Search) (f : Str) (c : Bool)
    (h : d.find f = d'.find f) : solveSearch E d s f c = solveSearch E d' s f c :=
  solveSearch_rekey E d d' s f f c h

theorem user_doc_is_its_find (g : Str → Option Value) (k : Str) : (Doc.user g).find k = g k := rfl

example : yamlToValue (.num (.int 9223372036854775807)) = .uint 9223372036854775807 ∧
    yamlToValue (.num (.int (-1))) = .int (-1) := by
  constructor <;> rfl

/-- Two documents that answer the keys a rule names alike, up to the signedness of the integers they
    hold, give it the same three-valued result. -/
theorem same_numbers_same_result (E : RegexEngine) (ids : Ids) (d d' : Doc) (e : Expr)
    (h : ∀ k ∈ C16.ruleKeys ids e, (d.find k).map normV = (d'.find k).map normV) :
    solveTop E ids d e = solveTop E ids d' e := by
  rw [← top_norm E ids d e, ← top_norm E ids d' e]
  exact C16.frame_rule E ids _ _ e fun k hk => by rw [find_norm, find_norm]; exact h k hk

/-- **The verdict depends on the document only through `find`.** Two documents of ANY
    representation (an `Object` with the default path walk, a user `Document`, …) whose `find`
    answers agree give the same three-valued result — hence the same verdict — for every rule:
    every condition tree, every set of identifier bodies, plain or optimised. -/
theorem representation_independent (E : RegexEngine) (ids : Ids) (d d' : Doc) (e : Expr)
    (h : ∀ k, d.find k = d'.find k) : solveTop E ids d e = solveTop E ids d' e :=
  same_numbers_same_result E ids d d' e fun k _ => by rw [h k]

theorem representation_independent_verdict (E : RegexEngine) (ids : Ids) (d d' : Doc) (e : Expr)
    (h : ∀ k, d.find k = d'.find k) : matchesTop E ids d e = matchesTop E ids d' e := by
  unfold matchesTop; rw [representation_independent E ids d d' e h]

/-- An `Object`-backed document and a hand-written `Document` that answers every key as the default
    path walk over the same fields would: indistinguishable. -/
theorem object_vs_document (E : RegexEngine) (ids : Ids) (kvs : List (Str × Value)) (e : Expr) :
    solveTop E ids (.obj kvs) e = solveTop E ids (.user (objFind kvs)) e :=
  representation_independent E ids _ _ e (fun _ => rfl)

/-- The same rule-level statement for the optimised rule (any switches): optimisation is a function
    of the rule alone, so it cannot tell representations apart either. -/
theorem representation_independent_optimised (E : RegexEngine) (sw : Switches) (r : Rule) (d d' : Doc)
    (h : ∀ k, d.find k = d'.find k) : (r.optimise E sw).matches E d = (r.optimise E sw).matches E d' :=
  representation_independent_verdict E _ d d' _ h

/-! The adapters hand a non-negative integer over as `Value::UInt` when it came from YAML, JSON or an
unsigned Rust type, and as `Value::Int` when it came from `i8 … i64` / `isize` (value.rs:286-329).
`normDoc` rewrites every `UInt n` with `n ≤ i64::MAX` into `Int n` at every depth of whatever the
document answers. No rule can tell a document from its normal form (Tau/Proofs/Signed.lean,
`solveG_normDoc`). -/

/-- **A document and its signedness-normal form get the same three-valued result from every rule.** -/
theorem signedness_independent (E : RegexEngine) (ids : Ids) (d : Doc) (e : Expr) :
    solveTop E ids (normDoc d) e = solveTop E ids d e :=
  top_norm E ids d e

/-- **Two documents of any representation that answer every key alike up to the signedness of the
    integers they hold get the same verdict from every rule** — a `HashMap<String, i64>` against the
    YAML mapping of the same numbers, a hand-written object holding `isize` against JSON. -/
theorem same_numbers_same_verdict (E : RegexEngine) (ids : Ids) (d d' : Doc) (e : Expr)
    (h : ∀ k, (normDoc d).find k = (normDoc d').find k) :
    matchesTop E ids d e = matchesTop E ids d' e :=
  congrArg Tri.isT (same_numbers_same_result E ids d d' e fun k _ => by rw [← find_norm, ← find_norm, h k])

theorem same_numbers_same_verdict_optimised (E : RegexEngine) (sw : Switches) (r : Rule) (d d' : Doc)
    (h : ∀ k, (normDoc d).find k = (normDoc d').find k) :
    (r.optimise E sw).matches E d = (r.optimise E sw).matches E d' :=
  same_numbers_same_verdict E _ d d' _ h

/-- Non-vacuity: `{n: 5, xs: [1, {m: 2}]}` held signed and held unsigned have one normal form… -/
example :
    normDoc (.obj [(['n'], .int 5), (['x'], .arr [.int 1, .obj [(['m'], .int 2)]])]) =
    normDoc (.obj [(['n'], .uint 5), (['x'], .arr [.uint 1, .obj [(['m'], .uint 2)]])]) := by
  rfl
/-- …an unsigned value above i64::MAX has no signed twin and stays what it is… -/
example : normV (.uint 9223372036854775808) = .uint 9223372036854775808 := by rfl
/-- …and a negative number is never confused with anything. -/
example : normV (.int (-1)) = .int (-1) := by rfl

end Tau.C11
