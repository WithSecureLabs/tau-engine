import Tau.Proofs.TokGaps
/-
  C05 — Condition grammar: fixed precedence, associativity and parentheses.
-/
namespace Tau.C05
open Tau

theorem binding_powers :
    Token.miscNot.bp = 95 ∧ (Token.op .eq).bp = 90 ∧ (Token.op .gt).bp = 90 ∧ (Token.op .ge).bp = 90 ∧
    (Token.op .lt).bp = 90 ∧ (Token.op .le).bp = 90 ∧ (Token.op .or).bp = 80 ∧ (Token.op .and).bp = 70 := by
  decide

theorem keyword_ends_in_delimiter :
    ∀ k ∈ keywords, k.1.getLast? = some ' ' ∨ k.1.getLast? = some '(' := by
  intro k hk
  obtain ⟨w, d, h, hd, -⟩ := keyword_split hk
  rw [h]; simpa using hd

theorem keyword_length : ∀ k ∈ keywords, k.1.length ≤ 7 := by rw [keywords_eq]; decide

theorem mem_take_prefix (c : Char) (kw rest : Str) (hm : c ∈ kw) (hlen : kw.length ≤ 7) :
    c ∈ (kw ++ rest).take 7 := by
  rw [List.take_append, List.take_of_length_le hlen]
  exact List.mem_append_left _ hm

/-- Every keyword of the tokeniser ends in a delimiter (a space or an opening parenthesis) and is
    at most 7 characters long, so a word is only ever read as a keyword when a space or `(` occurs
    among its first 7 characters: `android`, `order`, `nothing`, `allow`, `offline` are ordinary
    identifiers however they continue. -/
theorem keyword_needs_delimiter (s : Str) (t : Token) (n : Nat) (h : findKeyword s = some (t, n)) :
    ∃ c ∈ s.take 7, c = ' ' ∨ c = '(' := by
  obtain ⟨kw, hmem, hpre⟩ := findKeyword_some h
  obtain ⟨rest, rfl⟩ := List.isPrefixOf_iff_prefix.mp hpre
  have hlen : kw.length ≤ 7 := keyword_length _ hmem
  rcases keyword_ends_in_delimiter _ hmem with hl | hl
  · exact ⟨' ', mem_take_prefix _ _ _ (List.mem_of_getLast? hl) hlen, Or.inl rfl⟩
  · exact ⟨'(', mem_take_prefix _ _ _ (List.mem_of_getLast? hl) hlen, Or.inr rfl⟩

/-- Words that merely begin with keyword letters tokenise as ordinary identifiers. -/
example :
    tokenise "android".toList = .ok [.ident "android".toList] ∧
    tokenise "order and nothing".toList = .ok [.ident "order".toList, .op .and, .ident "nothing".toList] ∧
    tokenise "allow or offline".toList = .ok [.ident "allow".toList, .op .or, .ident "offline".toList] ∧
    tokenise "not notable".toList = .ok [.miscNot, .ident "notable".toList] := by
  decide +kernel

/-- **The grammar, as a round trip.** For every condition AST over identifiers, `all()`, `of()`,
    comparisons, `not`, `and`, `or` — printed with exactly the parentheses the binding powers
    require and any redundant ones (`Cond.par`) — the parser returns exactly the AST's tree. This
    pins: `not` applies to the single operand that follows; `or` binds tighter than `and`; equal
    operators associate to the left; parentheses override; redundant parentheses change nothing. -/
theorem parse_print (c : Cond) : parse c.pp = .ok c.toExpr := parse_pp c

theorem redundant_parens (c : Cond) : parse (Cond.par c).pp = parse c.pp := by
  rw [parse_pp, parse_pp]; rfl

/-- The printed forms of the four grammar facts. -/
example :
    -- `not A or B` is `(not A) or B`
    (Cond.or (.not (.id ['A'])) (.id ['B'])).pp = [.miscNot, .ident ['A'], .op .or, .ident ['B']] ∧
    -- `A and B or C` is `A and (B or C)`: `or` binds tighter than `and`
    (Cond.and (.id ['A']) (.or (.id ['B']) (.id ['C']))).pp
      = [.ident ['A'], .op .and, .ident ['B'], .op .or, .ident ['C']] ∧
    -- `(A and B) or C` needs its parentheses
    (Cond.or (.and (.id ['A']) (.id ['B'])) (.id ['C'])).pp
      = [.lparen, .ident ['A'], .op .and, .ident ['B'], .rparen, .op .or, .ident ['C']] ∧
    -- `A and B and C` is `(A and B) and C`: left associative, and the other grouping needs parentheses
    (Cond.and (.and (.id ['A']) (.id ['B'])) (.id ['C'])).pp
      = [.ident ['A'], .op .and, .ident ['B'], .op .and, .ident ['C']] ∧
    (Cond.and (.id ['A']) (.and (.id ['B']) (.id ['C']))).pp
      = [.ident ['A'], .op .and, .lparen, .ident ['B'], .op .and, .ident ['C'], .rparen] := by
  refine ⟨rfl, rfl, rfl, rfl, rfl⟩

theorem parse_fuel_irrelevant {f f' : Nat} (h : f ≤ f') {ts : List Token} {e : Expr}
    (hp : parseAll f ts = .ok e) : parseAll f' ts = .ok e := parseAll_mono h hp

/-- With a comparison atom: it binds tighter than `or`; under `not` it needs its parentheses. -/
example :
    let cmp : Cond := .cmp (.cast ['n'] .int) .gt (.int 3) ⟨rfl, by decide, by decide⟩
    parse (Cond.and (.id ['A']) (.or cmp (.id ['B']))).pp
      = .ok (.bin (.ident ['A']) .and (.bin (.bin (.cast ['n'] .int) .gt (.int 3)) .or (.ident ['B']))) ∧
    (Cond.not cmp).pp = [.miscNot, .lparen, .modifier .int, .lparen, .ident ['n'], .rparen, .op .gt, .int 3, .rparen] :=
  ⟨parse_print _, rfl⟩

/-- **Text ↦ tokens.** The text of a renderable token list (one blank after every token, none
    between `all`/`of`/`int`/… and its parenthesis; identifier names that start with a letter, use
    identifier characters and are not exactly `and`/`or`/`not`; integer literals by any unsigned
    decimal text `parseI64` reads back) tokenises back to that list. -/
theorem text_tokens (num : Int → Str) (ts : List Token) (h : Renderable num ts) :
    tokenise (render num ts) = .ok ts := tokenise_render num ts h

/-- **Text of a condition ↦ its tree** (tokeniser and Pratt parser composed). -/
theorem text_round_trip (num : Int → Str) (c : Cond) (h : c.good num) :
    (match tokenise (render num c.pp) with
     | .ok ts => parse ts
     | .error e => .error e) = .ok c.toExpr := cond_text_round_trip num c h

/-- Non-vacuity: `A and int( n ) > 3 or B` is such a text. -/
example :
    let num : Int → Str := fun i => (toString i).toList
    let cmp : Cond := .cmp (.cast ['n'] .int) .gt (.int 3) ⟨rfl, by decide, by decide⟩
    let c : Cond := .and (.id ['A']) (.or cmp (.id ['B']))
    c.good num ∧ String.ofList (render num c.pp) = "A and int( n ) > 3 or B " := by
  refine ⟨⟨?_, ⟨?_, ?_⟩, ?_⟩, by rfl⟩
  · exact ⟨⟨'A', [], rfl, by decide⟩, by decide, by decide, by decide, by decide⟩
  · exact ⟨⟨'n', [], rfl, by decide⟩, by decide, by decide, by decide, by decide⟩
  · exact ⟨⟨'3', [], by decide, by decide⟩, by decide, by decide⟩
  · exact ⟨⟨'B', [], rfl, by decide⟩, by decide, by decide, by decide, by decide⟩

/-- **Extra blanks never change the tokens**: any number of blanks in front of the text, and after
    every token any number beyond the one that ends it (`gs`, token by token; keywords such as
    `all`, `of`, `int` still touch their parenthesis) — the tokeniser returns the same token list. -/
theorem extra_blanks_tokens (num : Int → Str) (ts : List Token) (h : Renderable num ts) (k : Nat)
    (gs : List Nat) : tokenise (sp k ++ renderG num ts gs) = .ok ts :=
  tokenise_renderG num ts h k gs

/-- **Extra blanks never change what a condition means**: text with arbitrary extra blanks
    tokenises and parses to the tree of the condition (so to the same verdicts on every document). -/
theorem extra_blanks_tree (num : Int → Str) (c : Cond) (h : c.good num) (k : Nat) (gs : List Nat) :
    (match tokenise (sp k ++ renderG num c.pp gs) with
     | .ok ts => parse ts
     | .error e => .error e) = .ok c.toExpr :=
  cond_gaps_round_trip num c h k gs

theorem no_extra_blanks (num : Int → Str) (ts : List Token) : renderG num ts [] = render num ts :=
  renderG_nogaps num ts

/-- Non-vacuity: three blanks in front, then gaps of 1 + (2, 0, 5, 0, 1, …) blanks. -/
example :
    let num : Int → Str := fun i => (toString i).toList
    String.ofList (sp 3 ++ renderG num [.ident ['A'], .op .and, .modifier .int, .lparen, .ident ['n'], .rparen, .op .gt, .int 3] [2, 0, 5, 0, 1])
      = "   A   and int(      n )  > 3 " := by rfl

end Tau.C05
