import Tau.Properties.C06
import Tau.Proofs.Batch
/-
  C08 — List quantifiers count the members the author wrote.

  Full statement: for a key with a member list `ms`, `all(k)` = Tri.and, `of(k,n)` = Tri.ofN n and
  the plain list = Tri.or of the members' own results, whatever the members are and however they
  are batched. On the current code this holds when every member stays a separate node of the group
  (theorems below, via C06) and FAILS when same-kind string members are batched into one automaton
  next to other members (KF-C08-batched-member; witness proved below).
-/
namespace Tau.C08
open Tau

/-- When each written member is its own node `es[i]`, `all(k)` is the conjunction of the members… -/
theorem all_counts_members (E : RegexEngine) (K : IdentK) (d : Doc) (es : List Expr) :
    solveG E K d (.match .all (.group .or es)) = Tri.and (es.map (solveG E K d)) :=
  C06.solve_all_group E K d .or es

/-- …`of(k, n)` counts them… -/
theorem of_counts_members (E : RegexEngine) (K : IdentK) (d : Doc) (n : Nat) (es : List Expr) :
    solveG E K d (.match (.of n) (.group .or es)) = Tri.ofN n (es.map (solveG E K d)) :=
  C06.solve_of_group E K d n .or es

/-- …and a plain list is their disjunction. -/
theorem list_is_or (E : RegexEngine) (K : IdentK) (d : Doc) (es : List Expr) :
    solveG E K d (.group .or es) = Tri.or (es.map (solveG E K d)) :=
  group_or_value E K d es

/-- A list that batches into ONE automaton is counted per needle: `all` needs every needle,
    `of(n)` at least `n` distinct needles (string-valued field). -/
theorem all_single_automaton (E : RegexEngine) (K : IdentK) (d : Doc) (ctx : List MatchType) (ci : Bool)
    (f : Str) (c : Bool) (h : Str) (hf : d.find f = some (.str h)) :
    solveG E K d (.match .all (.search (.ac ctx ci) f c)) = Tri.ofBool (ctx.all (relMT ci · h)) := by
  simp only [solveG, allAc, hf, onFieldValue, triOfOpt, slowAho]
  have : (ctx.countP (relMT ci · h) == ctx.length) = ctx.all (relMT ci · h) := by
    rw [Bool.eq_iff_iff, beq_iff_eq, List.countP_eq_length, List.all_eq_true]
  rw [this]
  cases ctx.all (relMT ci · h) <;> rfl

theorem of_single_automaton (E : RegexEngine) (K : IdentK) (d : Doc) (n : Nat) (hn : 0 < n)
    (ctx : List MatchType) (ci : Bool) (f : Str) (c : Bool) (h : Str) (hf : d.find f = some (.str h)) :
    solveG E K d (.match (.of n) (.search (.ac ctx ci) f c)) = Tri.ofBool (decide (n ≤ ctx.countP (relMT ci · h))) := by
  have : n ≠ 0 := by omega
  simp only [solveG, ofAc, this, if_false, hf, onFieldValue, triOfOpt, slowAho]
  by_cases hle : n ≤ ctx.countP (relMT ci · h) <;> simp [hle, Tri.ofBool]

/-- A one-member list under `of(k, n)` keeps its count (`ofSingle`, solver.rs:1333): a single
    member can satisfy a count of at most one, and `of(k, 0)` inverts it. -/
theorem of_single_member (r : Tri) :
    ofSingle 0 r = (match r with | .t => .f | .f => .t | .m => .m) ∧
    ofSingle 1 r = r ∧
    (∀ n, 2 ≤ n → ofSingle n r = (match r with | .t => .m | x => x)) := by
  refine ⟨by cases r <;> rfl, by cases r <;> rfl, ?_⟩
  intro n hn
  have h0 : n ≠ 0 := by omega
  have h1 : n > 1 := by omega
  cases r <;> simp [ofSingle, h0, h1]

/-- KF-C08-batched-member, proved on the model: `all(f): [a*, *b, i*C]` parses into a group whose
    first node is the automaton `[a*, *b]`; on `f: ac` the member `*b` does not match, yet `all`
    is true because the automaton is evaluated as one disjunctive member. -/
theorem batched_member_counted_once :
    let e : Expr := .match .all (.group .or
      [ .search (.ac [.startsWith ['a'], .endsWith ['b']] false) ['f'] false,
        .search (.ac [.endsWith ['c']] true) ['f'] false ])
    let d : Doc := .obj [(['f'], .str ['a', 'c'])]
    solveClosed ⟨fun _ _ => false, fun _ _ _ => false⟩ d e = .t ∧
    relMT false (.endsWith ['b']) ['a', 'c'] = false := by
  decide

/-- The array variant of the same finding: over an array-valued field the lone automaton of
    `all(f): ['*ab*', '*cd*']` needs ONE element containing both needles, while each member on its
    own matches some element (so the members written out as `A and B` are true). -/
theorem batched_all_is_per_element :
    let E0 : RegexEngine := ⟨fun _ _ => false, fun _ _ _ => false⟩
    let e : Expr := .match .all (.search (.ac [.contains ['a', 'b'], .contains ['c', 'd']] false) ['f'] false)
    let m1 : Expr := .search (.contains ['a', 'b']) ['f'] false
    let m2 : Expr := .search (.contains ['c', 'd']) ['f'] false
    let d : Doc := .obj [(['f'], .arr [.str ['a', 'b'], .str ['c', 'd']])]
    solveClosed E0 d e = .f ∧ solveClosed E0 d m1 = .t ∧ solveClosed E0 d m2 = .t := by
  decide

/-- With no batch of two or more, the group is the written members, up to order. -/
theorem unbatched_perm (st : SeqSt) (hwf : st.WF) (f : Str) (hm : (batchMembers st f).2 = false) :
    (batchMembers st f).1.Perm (unbatched st f) := by
  exact (batchMembers_stands st hwf f).1 hm ▸ buckets_perm st hwf f

/-- What the member loop collected is, up to order, the members taken one at a time. -/
theorem members_perm (E : RegexEngine) (ic : Bool) (f : Str) (misc : Option ModSym) (lhs : Expr) :
    ∀ (vs : List Yaml) (Δ : SeqSt),
      parseMembers E ic f misc lhs vs { cast := (misc == some .str) } = .ok Δ →
      (unbatched Δ f).Perm (vs.flatMap (memberAlone E ic f misc lhs)) :=
  fun vs Δ h => (members_flat_perm E ic f misc lhs vs _ Δ rfl h).trans (.of_eq (List.nil_append _))

theorem ofN_single (n : Nat) (r : Tri) : Tri.ofN n [r] = ofSingle n r := (ofSingle_eq n r).symm

/-- The table of a quantifier. -/
def quantVal (k : MatchK) (xs : List Tri) : Tri :=
  match k with
  | .all => Tri.and xs
  | .of n => Tri.ofN n xs

theorem key_quantifier_value (E : RegexEngine) (ic : Bool) (f : Str) (k : MatchK) (y : Expr) (s : List Yaml)
    (x : Expr) (h : parseVal E ic (.match k y) f none (.seq s) = .ok x) :
    ∃ st, parseMembers E ic f none y s { cast := false } = .ok st ∧ st.WF ∧
      (2 ≤ (batchMembers st f).1.length →
        ∀ (K : IdentK) (d : Doc), solveG E K d x = quantVal k ((batchMembers st f).1.map (solveG E K d))) := by
  obtain ⟨st, g, gs, hst, hwf, hg, rfl⟩ := parseVal_seq_ok h
  refine ⟨st, hst, hwf, fun hlen K d => ?_⟩
  have hgs : gs.isEmpty = false := by
    rw [hg] at hlen
    cases gs with
    | nil => simp at hlen
    | cons _ _ => rfl
  rw [hg, shapeGroup_quant k y g _ hgs]
  cases k with
  | all => exact C06.solve_all_group E K d .or _
  | of n => exact C06.solve_of_group E K d n .or _

/-- **Nothing batched ⇒ the quantifiers count the members as written.** If the list under
    `all(k)` / `of(k, n)` holds no two members that the parser batches together (no two
    case-sensitive literals, no case-insensitive literal, no two regexes of one case flag) then
    `of(k, n)` is exactly the count over the members taken one at a time, and `all(k)` is true
    exactly when every member is. -/
theorem unbatched_key_quantifiers (E : RegexEngine) (ic : Bool) (f : Str) (k : MatchK) (s : List Yaml) (x : Expr)
    (h : parseVal E ic (.match k (.field f)) f none (.seq s) = .ok x) :
    ∃ st, parseMembers E ic f none (.field f) s { cast := false } = .ok st ∧
      ((batchMembers st f).2 = false → 2 ≤ (batchMembers st f).1.length →
        ∀ (K : IdentK) (d : Doc),
          let members := (s.flatMap (memberAlone E ic f none (.field f))).map (solveG E K d)
          (solveG E K d x = .t ↔ quantVal k members = .t) ∧
          (∀ n, k = .of n → solveG E K d x = Tri.ofN n members)) := by
  obtain ⟨st, hst, hwf, hval⟩ := key_quantifier_value E ic f k (.field f) s x h
  refine ⟨st, hst, fun hm hlen K d => ?_⟩
  have hperm : (batchMembers st f).1.Perm (s.flatMap (memberAlone E ic f none (.field f))) :=
    (unbatched_perm st hwf f hm).trans (members_perm E ic f none (.field f) s st hst)
  rw [hval hlen K d]
  refine ⟨?_, fun n hk => ?_⟩
  · cases k with
    | all =>
      simp only [quantVal]
      exact Tri.and_t_perm (hperm.map _)
    | of n =>
      simp only [quantVal]
      rw [Tri.ofN_perm n (hperm.map _)]
  · subst hk
    simp only [quantVal]
    exact Tri.ofN_perm n (hperm.map _)

end Tau.C08
