import Tau.Properties.C02
/-
  C17 — Order of operands never decides whether and/or is true.
-/
namespace Tau.C17
open Tau

/-- Reordering the operands of a grouped `or` (a sequence of mappings, a list of members that
    stayed separate) does not change its three-valued result at all. -/
theorem or_group_perm (E : RegexEngine) (K : IdentK) (d : Doc) {es es' : List Expr} (h : es.Perm es') :
    solveG E K d (.group .or es) = solveG E K d (.group .or es') := by
  rw [group_or_value, group_or_value]
  exact Tri.or_perm (h.map _)

/-- Reordering the operands of a grouped `and` (the entries of a mapping) never changes whether it
    is true. (Which of false/missing it is when not true may change: that is why the property
    excludes positions under a negation.) -/
theorem and_group_perm_truth (E : RegexEngine) (K : IdentK) (d : Doc) {es es' : List Expr} (h : es.Perm es') :
    (solveG E K d (.group .and es) = .t) ↔ (solveG E K d (.group .and es') = .t) := by
  rw [group_and_value, group_and_value]
  exact Tri.and_t_perm (h.map _)

theorem or_bin_comm (E : RegexEngine) (K : IdentK) (d : Doc) (l r : Expr) :
    solveG E K d (.bin l .or r) = solveG E K d (.bin r .or l) := by
  rw [C06.solve_bin_or, C06.solve_bin_or]
  exact Tri.or_perm (List.Perm.swap _ _ _)

theorem and_bin_comm_truth (E : RegexEngine) (K : IdentK) (d : Doc) (l r : Expr) :
    (solveG E K d (.bin l .and r) = .t) ↔ (solveG E K d (.bin r .and l) = .t) := by
  rw [C06.solve_bin_and, C06.solve_bin_and]
  exact Tri.and_t_perm (List.Perm.swap _ _ _)

theorem all_group_perm_truth (E : RegexEngine) (K : IdentK) (d : Doc) (op : BoolSym) {es es' : List Expr}
    (h : es.Perm es') :
    (solveG E K d (.match .all (.group op es)) = .t) ↔ (solveG E K d (.match .all (.group op es')) = .t) := by
  rw [C06.solve_all_group, C06.solve_all_group]
  exact Tri.and_t_perm (h.map _)

theorem of_group_perm (E : RegexEngine) (K : IdentK) (d : Doc) (n : Nat) (op : BoolSym) {es es' : List Expr}
    (h : es.Perm es') :
    solveG E K d (.match (.of n) (.group op es)) = solveG E K d (.match (.of n) (.group op es')) := by
  rw [C06.solve_of_group, C06.solve_of_group]
  exact Tri.ofN_perm n (h.map _)

/-- Truth is a congruence for `or`/`and` contexts: replacing an operand by one that is true exactly
    when the original is keeps the truth of the enclosing connective. This is what lifts the
    operand-level statements to any position that is not underneath a negation or a none-of. -/
theorem or_group_congr_truth (xs ys : List Tri) (h : List.Forall₂' xs ys) :
    (Tri.or xs = .t) ↔ (Tri.or ys = .t) :=
  h.or

theorem and_group_congr_truth (xs ys : List Tri) (h : List.Forall₂' xs ys) :
    (Tri.and xs = .t) ↔ (Tri.and ys = .t) :=
  h.and

/-- Non-vacuity: the exactness of `or` is strict (a false/missing pair really is order-sensitive for
    `and`, which is why only truth is claimed there). -/
example : Tri.and [.f, .m] = .f ∧ Tri.and [.m, .f] = .m ∧ Tri.or [.f, .m] = Tri.or [.m, .f] := by decide

/-- Any key that is no all()/of(), any modifier: the list is the `or` of its members taken one at a
    time (`seq_value`), negated under `not(k)`. -/
theorem seq_members_perm (E : RegexEngine) (ic : Bool) (e : Expr) (f : Str) (misc : Option ModSym)
    (s s' : List Yaml) (x x' : Expr) (he : ∀ k y, e ≠ .match k y) (hp : s.Perm s')
    (h : parseVal E ic e f misc (.seq s) = .ok x) (h' : parseVal E ic e f misc (.seq s') = .ok x')
    (K : IdentK) (d : Doc) : solveG E K d x = solveG E K d x' := by
  obtain ⟨y, rfl, hy⟩ := seq_value (E := E) (K := K) (d := d) he h
  obtain ⟨y', rfl, hy'⟩ := seq_value (E := E) (K := K) (d := d) he h'
  rw [C02.solve_wrapNot, C02.solve_wrapNot, hy, hy', Tri.or_perm (hp.map _)]

/-- **The order of the members of a list never matters** (exactly, as a three-valued result):
    two lists under the same plain key that are permutations of each other evaluate alike on every
    document — whatever automata / regex sets the parser batches each of them into. -/
theorem list_members_perm (E : RegexEngine) (ic : Bool) (f : Str) (s s' : List Yaml) (x x' : Expr)
    (hp : s.Perm s')
    (h : parseVal E ic (.field f) f none (.seq s) = .ok x)
    (h' : parseVal E ic (.field f) f none (.seq s') = .ok x') (K : IdentK) (d : Doc) :
    solveG E K d x = solveG E K d x' :=
  seq_members_perm E ic _ f none s s' x x' (fun _ _ h => by cases h) hp h h' K d

/-- **The order of the entries of a mapping never decides whether it is true.** -/
theorem mapping_entries_perm_truth (E : RegexEngine) (ic : Bool) (kvs kvs' : List (Yaml × Yaml)) (x x' : Expr)
    (hp : kvs.Perm kvs')
    (h : parseMapping E ic kvs = .ok x) (h' : parseMapping E ic kvs' = .ok x') (K : IdentK) (d : Doc) :
    (solveG E K d x = .t) ↔ (solveG E K d x' = .t) := by
  obtain ⟨es, he, hv, _⟩ := C02.finish_value E K h
  obtain ⟨es', he', hv', _⟩ := C02.finish_value E K h'
  rw [hv d, hv' d, filterMap_toOption_of_map (parseEntries_ok_map he),
    filterMap_toOption_of_map (parseEntries_ok_map he')]
  exact Tri.and_t_perm ((hp.filterMap _).map _)

/-- **The order of the mappings of a sequence identifier never matters** (exactly). -/
theorem identifier_sequence_perm (E : RegexEngine) (ic : Bool) (ys ys' : List Yaml) (x x' : Expr)
    (hp : ys.Perm ys')
    (h : parseIdentifier E ic (.seq ys) = .ok x) (h' : parseIdentifier E ic (.seq ys') = .ok x')
    (K : IdentK) (d : Doc) : solveG E K d x = solveG E K d x' := by
  obtain ⟨es, rfl, e1⟩ := parseIdentifier_seq_ok h
  obtain ⟨es', rfl, e2⟩ := parseIdentifier_seq_ok h'
  rw [filterMap_toOption_of_map e1, filterMap_toOption_of_map e2]
  exact or_group_perm E K d (hp.filterMap _)

/-- `a` and `b` are true on exactly the same documents under every identifier environment: `TEq`
    of their results for every `K` and `d`. -/
def TEqv (E : RegexEngine) (a b : Expr) : Prop :=
  ∀ (K : IdentK) (d : Doc), (solveG E K d a = .t) ↔ (solveG E K d b = .t)

theorem TEqv.refl (E : RegexEngine) (a : Expr) : TEqv E a a := fun _ _ => TEq.refl _
theorem TEqv.symm {E : RegexEngine} {a b : Expr} (h : TEqv E a b) : TEqv E b a := fun K d => TEq.symm (h K d)
theorem TEqv.trans {E : RegexEngine} {a b c : Expr} (h1 : TEqv E a b) (h2 : TEqv E b c) : TEqv E a c :=
  fun K d => TEq.trans (h1 K d) (h2 K d)

theorem forall2_of_pointwise (E : RegexEngine) (K : IdentK) (d : Doc) : ∀ (es es' : List Expr),
    es.length = es'.length → (∀ i (h1 : i < es.length) (h2 : i < es'.length), TEqv E es[i] es'[i]) →
    List.Forall₂' (es.map (solveG E K d)) (es'.map (solveG E K d)) := by
  intro es
  induction es with
  | nil => exact fun es' hl _ => by rw [List.eq_nil_of_length_eq_zero hl.symm]; exact .nil
  | cons a as ih =>
    rintro (_ | ⟨b, bs⟩) hl hp
    · cases hl
    · exact .cons (hp 0 (Nat.zero_lt_succ _) (Nat.zero_lt_succ _) K d) <|
        ih bs (Nat.succ.inj hl) fun i h1 h2 => hp (i + 1) (Nat.succ_lt_succ h1) (Nat.succ_lt_succ h2)

theorem ofN_pos_congr_truth (n : Nat) (hn : n ≠ 0) (xs ys : List Tri) (h : List.Forall₂' xs ys) :
    (Tri.ofN n xs = .t) ↔ (Tri.ofN n ys = .t) :=
  h.ofN_pos hn

/-- What a reordering may do, closed under the connectives truth passes through: permute the
    operands of a grouped and / or, swap those of a two-operand and / or, permute what an
    `all(..)` or an `of(.., n ≥ 1)` counts — at any depth that is not underneath a negation or a
    none-of quantifier (there is no rule for `not` or `of(.., 0)`), also inside nested blocks whose
    body is not an all()/of(): over an array the solver asks `f: {all(..)}` member by member, each
    for some element, so the truth of such a block is not that of its body element by element. -/
inductive Reorder : Expr → Expr → Prop where
  | refl (a : Expr) : Reorder a a
  | trans {a b c : Expr} : Reorder a b → Reorder b c → Reorder a c
  | perm (op : BoolSym) (hop : op = .and ∨ op = .or) {es es' : List Expr} : es.Perm es' →
      Reorder (.group op es) (.group op es')
  | inside (op : BoolSym) (hop : op = .and ∨ op = .or) {es es' : List Expr} (hl : es.length = es'.length) :
      (∀ i (h1 : i < es.length) (h2 : i < es'.length), Reorder es[i] es'[i]) →
      Reorder (.group op es) (.group op es')
  | comm (op : BoolSym) (hop : op = .and ∨ op = .or) (l r : Expr) : Reorder (.bin l op r) (.bin r op l)
  | bin (op : BoolSym) (hop : op = .and ∨ op = .or) {l l' r r' : Expr} : Reorder l l' → Reorder r r' →
      Reorder (.bin l op r) (.bin l' op r')
  | allPerm (op : BoolSym) {es es' : List Expr} : es.Perm es' →
      Reorder (.match .all (.group op es)) (.match .all (.group op es'))
  | allInside (op : BoolSym) {es es' : List Expr} (hl : es.length = es'.length) :
      (∀ i (h1 : i < es.length) (h2 : i < es'.length), Reorder es[i] es'[i]) →
      Reorder (.match .all (.group op es)) (.match .all (.group op es'))
  | ofPerm (n : Nat) (op : BoolSym) {es es' : List Expr} : es.Perm es' →
      Reorder (.match (.of n) (.group op es)) (.match (.of n) (.group op es'))
  | ofInside (n : Nat) (hn : n ≠ 0) (op : BoolSym) {es es' : List Expr} (hl : es.length = es'.length) :
      (∀ i (h1 : i < es.length) (h2 : i < es'.length), Reorder es[i] es'[i]) →
      Reorder (.match (.of n) (.group op es)) (.match (.of n) (.group op es'))
  | nested (f : Str) {x x' : Expr} (hx : C02.isMatchE x = false) (hx' : C02.isMatchE x' = false) :
      Reorder x x' → Reorder (.nested f x) (.nested f x')

theorem nested_congr (E : RegexEngine) (f : Str) (x x' : Expr) (hx : C02.isMatchE x = false)
    (hx' : C02.isMatchE x' = false) (h : TEqv E x x') : TEqv E (.nested f x) (.nested f x') :=
  fun K d => nested_truth_congr E K f x' x (C02.nestedSpecial_of_not_match hx')
    (C02.nestedSpecial_of_not_match hx) (fun d => h K d) d

/-- **Reordering never decides truth — at any depth.** Whatever chain of reorderings (`Reorder`)
    leads from `a` to `b`, the two are true on exactly the same documents: the verdict of a rule is
    invariant under reordering the operands of `or` / `and`, the members of lists, the entries of
    mappings and sequences, wherever the reordered part is not underneath a negation or a none-of
    quantifier. -/
theorem reorder_truth (E : RegexEngine) {a b : Expr} (h : Reorder a b) : TEqv E a b := by
  induction h with
  | refl a => exact TEqv.refl E a
  | trans _ _ ih1 ih2 => exact ih1.trans ih2
  | perm op hop hp =>
    intro K d
    rcases hop with rfl | rfl
    · exact and_group_perm_truth E K d hp
    · rw [or_group_perm E K d hp]
  | inside op hop hl _ ih =>
    intro K d
    exact group_truth E K d hop (forall2_of_pointwise E K d _ _ hl ih)
  | comm op hop l r =>
    intro K d
    rcases hop with rfl | rfl
    · exact and_bin_comm_truth E K d l r
    · rw [or_bin_comm E K d l r]
  | bin op hop _ _ ihl ihr => intro K d; exact bin_truth E K hop (ihl K) (ihr K) d
  | allPerm op hp => intro K d; exact all_group_perm_truth E K d op hp
  | allInside op hl _ ih =>
    intro K d
    rw [C06.solve_all_group, C06.solve_all_group]
    exact and_group_congr_truth _ _ (forall2_of_pointwise E K d _ _ hl ih)
  | ofPerm n op hp => intro K d; rw [of_group_perm E K d n op hp]
  | ofInside n hn op hl _ ih =>
    intro K d
    rw [C06.solve_of_group, C06.solve_of_group]
    exact ofN_pos_congr_truth n hn _ _ (forall2_of_pointwise E K d _ _ hl ih)
  | nested f hx hx' _ ih => exact nested_congr E f _ _ hx hx' ih

/-- At rule level: a condition reordered this way gives the same verdict on every document. -/
theorem reorder_verdict (E : RegexEngine) (ids : Ids) {a b : Expr} (h : Reorder a b) (d : Doc) :
    matchesTop E ids d a = matchesTop E ids d b :=
  (isT_eq_iff _ _).mpr (reorder_truth E h (topK E ids) d)

/-- Non-vacuity: a reordering three levels deep — the operands of an `and` swapped, inside it the
    members of an or-group permuted, inside a nested block the entries of a mapping permuted. -/
example (s1 s2 s3 : Search) :
    Reorder
      (.bin (.group .or [.search s1 ['f'] false, .search s2 ['g'] false, .nested ['o'] (.group .and [.search s1 ['a'] false, .search s3 ['b'] false])]) .and (.search s3 ['h'] false))
      (.bin (.search s3 ['h'] false) .and (.group .or [.nested ['o'] (.group .and [.search s3 ['b'] false, .search s1 ['a'] false]), .search s1 ['f'] false, .search s2 ['g'] false])) := by
  refine .trans (.comm .and (Or.inl rfl) _ _) (.bin .and (Or.inl rfl) (.refl _) ?_)
  refine .trans (.perm .or (Or.inr rfl) (es' := [.nested ['o'] (.group .and [.search s1 ['a'] false, .search s3 ['b'] false]), .search s1 ['f'] false, .search s2 ['g'] false]) ?_) ?_
  · exact (List.perm_append_comm (l₁ := [_, _]) (l₂ := [_]))
  · refine .inside .or (Or.inr rfl) rfl (fun i h1 h2 => ?_)
    match i, h1 with
    | 0, _ => exact .nested _ rfl rfl (.perm .and (Or.inl rfl) (List.Perm.swap _ _ _))
    | 1, _ => exact .refl _
    | 2, _ => exact .refl _

/-! `slow_aho` decides `all(k)` / `of(k, n)` over a list the parser batched into one automaton, and over
what shake merges into one. It counts MEMBERS (needles with a satisfying occurrence), so it does not
depend on where in the list a member stands, it is additive over any split of the list, and it never
exceeds the number of members — whatever the size of the list (the implementation switches from a
64-bit bitmap to a set at 64 members). -/

theorem slowAho_perm (ci : Bool) (a b : List MatchType) (h : Str) (hp : a.Perm b) :
    slowAho ci a h = slowAho ci b h := by
  unfold slowAho
  exact hp.countP_eq _

theorem slowAho_append (ci : Bool) (a b : List MatchType) (h : Str) :
    slowAho ci (a ++ b) h = slowAho ci a h + slowAho ci b h := by
  unfold slowAho
  exact List.countP_append

theorem slowAho_le (ci : Bool) (a : List MatchType) (h : Str) : slowAho ci a h ≤ a.length := by
  unfold slowAho
  exact List.countP_le_length

theorem slowAho_eq_length_iff (ci : Bool) (a : List MatchType) (h : Str) :
    slowAho ci a h = a.length ↔ ∀ m ∈ a, relMT ci m h = true := by
  unfold slowAho
  exact List.countP_eq_length

/-- `all(k)` / `of(k, n)` over one automaton: the three-valued result is the same for every order of
    the members, on every document. -/
theorem all_automaton_perm (E : RegexEngine) (K : IdentK) (d : Doc) (a b : List MatchType) (ci : Bool)
    (f : Str) (c : Bool) (hp : a.Perm b) :
    solveG E K d (.match .all (.search (.ac a ci) f c)) = solveG E K d (.match .all (.search (.ac b ci) f c)) := by
  simp only [solveG, allAc]
  have hl : a.length = b.length := hp.length_eq
  have hc : ∀ x, slowAho ci a x = slowAho ci b x := fun x => slowAho_perm ci a b x hp
  simp only [hc, hl]

theorem of_automaton_perm (E : RegexEngine) (K : IdentK) (d : Doc) (n : Nat) (a b : List MatchType) (ci : Bool)
    (f : Str) (c : Bool) (hp : a.Perm b) (hn : n ≠ 0) :
    solveG E K d (.match (.of n) (.search (.ac a ci) f c)) = solveG E K d (.match (.of n) (.search (.ac b ci) f c)) := by
  simp only [solveG, ofAc, hn, if_false]
  have hc : ∀ x, slowAho ci a x = slowAho ci b x := fun x => slowAho_perm ci a b x hp
  simp only [hc]

end Tau.C17
