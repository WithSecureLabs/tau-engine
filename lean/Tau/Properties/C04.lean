import Tau.Proofs.LoadTotal
/-
  C04 — Loading arbitrary text returns a rule or an error, never a panic.

  Every function of the model is total (Lean's termination checker: structural recursion, or
  recursion on fuel). A source-level panic / abort / endless loop is the distinguished value
  `Err.panic site`; the theorems show it is never produced, for ALL strings.
-/
namespace Tau.C04
open Tau

/-- Condition / mapping-key tokenising never panics and never runs out of fuel, for every string. -/
theorem tokenise_no_panic (s : Str) : ∀ site, tokenise s ≠ .error (.panic site) :=
  tokenise_np s

theorem tokenise_result (s : Str) :
    (∃ ts, tokenise s = .ok ts) ∨ tokenise s = .error .tokInvalidChar ∨ tokenise s = .error .tokInvalidNum
      ∨ (∃ e, tokenise s = .error e ∧ e ≠ .tokInvalidChar ∧ e ≠ .tokInvalidNum) := by
  cases h : tokenise s with
  | ok ts => exact .inl ⟨ts, rfl⟩
  | error e =>
    rcases tokenise_error h with rfl | rfl
    · exact .inr (.inr (.inl rfl))
    · exact .inr (.inl rfl)

/-- Numeric pattern parsing: a pattern or `InvalidIdentifier`. -/
theorem parseNumPat_err (op : BoolSym) (s : Str) (e : Err) (h : parseNumPat op s = .error e) :
    e = .parseInvalidIdent :=
  parseNumPat_error h

/-- Identifier-pattern parsing of ANY string, in either build, with any regex engine: the only
    error is `InvalidIdentifier` — in particular never a panic (the quote branch requires two
    characters, so a lone quote is never sliced `[1..0]`). -/
theorem patternOf_err (E : RegexEngine) (ci : Bool) (s : Str) (e : Err)
    (h : patternOf E ci s = .error e) : e = .parseInvalidIdent :=
  patternOf_error h

theorem intoIdentifier_err (E : RegexEngine) (ic : Bool) (s : Str) (e : Err)
    (h : intoIdentifier E ic s = .error e) : e = .parseInvalidIdent :=
  intoIdentifier_error h

theorem intoIdentifier_no_panic (E : RegexEngine) (ic : Bool) (s : Str) :
    ∀ site, intoIdentifier E ic s ≠ .error (.panic site) :=
  fun _ h => nomatch intoIdentifier_error h

/-- **The Pratt parser terminates on every token list.** The model's `parse` recurses on fuel and
    returns the panic value when it runs out; it never does, for ALL token lists, well-formed or
    not (unbalanced parentheses, dangling operators, `not not not …`). -/
theorem parse_no_panic (ts : List Token) : ∀ site, parse ts ≠ .error (.panic site) :=
  Tau.parse_no_panic ts

/-- Condition text → tree: tokenise, then parse; neither layer panics. -/
theorem condition_no_panic (s : Str) : ∀ site,
    (match tokenise s with | .error e => (Except.error e : Except Err Expr) | .ok ts => parse ts)
      ≠ .error (.panic site) := by
  intro site h
  split at h
  · rename_i e he; cases h; exact tokenise_no_panic s site he
  · exact Tau.parse_no_panic _ site h

/-- Mapping keys (`all(k)`, `of(k, n)`, `int(k)`, `not(k)`, plain, with blanks, garbage): every YAML
    key, whether the value under it is a sequence or not. -/
theorem parseKey_no_panic (k : Yaml) (vIsSeq : Bool) : ∀ site, parseKey k vIsSeq ≠ .error (.panic site) :=
  Tau.parseKey_np k vIsSeq

/-- **`parse_identifier` of EVERY YAML shape** (nested to any depth, tagged values, any key and
    string pattern, either build, any regex engine): a tree or an error value. The model's one
    explicit panic value inside `parse_mapping` (a string pattern that is neither a search nor a
    numeric comparison) is unreachable (`search_or_num`). -/
theorem parseIdentifier_no_panic (E : RegexEngine) (ic : Bool) (y : Yaml) :
    ∀ site, parseIdentifier E ic y ≠ .error (.panic site) :=
  Tau.parseIdentifier_np E ic y

/-- The detection block as a whole, any list of (name, YAML) entries. -/
theorem loadDetection_no_panic (E : RegexEngine) (ic : Bool) (entries : List (Str × Yaml)) :
    ∀ site, loadDetection E ic entries ≠ .error (.panic site) :=
  Tau.loadDetection_np E ic entries

/-- Non-vacuity: an unclosed group parses (as in the source), the other malformed token lists are
    parse errors, not panics. -/
example :
    parse [.lparen, .lparen, .ident ['A']] = .ok (.ident ['A']) ∧
    parse [.miscNot, .miscNot, .miscNot] = .error .parseInvalidToken ∧
    parse [.ident ['A'], .op .and] = .error .parseInvalidToken ∧
    parse [.rparen] = .error .parseInvalidToken ∧
    parse [] = .error .parseInvalidToken := by
  refine ⟨by rfl, by rfl, by rfl, by rfl, by rfl⟩

/-- A lone quote, with or without the `i` prefix, and the empty quotation are ordinary exact
    patterns. -/
example (E : RegexEngine) :
    intoIdentifier E false ['"'] = .ok ⟨false, .exact ['"']⟩ ∧
    intoIdentifier E false ['i', '\''] = .ok ⟨true, .exact ['\'']⟩ ∧
    intoIdentifier E false ['"', '"'] = .ok ⟨false, .exact []⟩ := by
  refine ⟨rfl, rfl, rfl⟩

/-- Non-vacuity: strings with awkward endings tokenise to values, not panics. -/
example : tokenise "A and".toList = .ok [.ident ['A'], .ident ['a', 'n', 'd']] ∧
    tokenise "-".toList = .error .tokInvalidNum ∧ tokenise "=".toList = .error .tokInvalidChar := by
  decide +kernel

end Tau.C04
