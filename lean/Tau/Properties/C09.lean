import Tau.Proofs.Solver
import Tau.Proofs.FloatOrder
/-
  C09 — Numeric comparisons and casts are order-correct and overflow-safe.

  Integers are mathematical integers in the model (`Int`), so "no wrap-around" is what the
  theorems below say: the engine's answer IS the mathematical relation. The model's comparison
  table is tied to the code by the correspondence run (boundary sets + random 64-bit values).
-/
namespace Tau.C09
open Tau

/-- The mathematical relation named by a comparison operator. -/
def rel (op : BoolSym) (a b : Int) : Prop :=
  match op with
  | .eq => a = b | .gt => a > b | .ge => a ≥ b | .lt => a < b | .le => a ≤ b
  | _ => False

/-- Value of an integer operand (signed or unsigned) as a mathematical integer. -/
def ival : Operand → Option Int := Operand.toInt?

/-- Integer comparisons (signed/signed, unsigned/unsigned and mixed) decide exactly the stated
    mathematical relation over the whole 64-bit range — no guard, no wrap-around. -/
theorem cmp_int_exact (x y : Operand) (a b : Int) (op : BoolSym)
    (hx : ival x = some a) (hy : ival y = some b) :
    compareOp x op y = true ↔ rel op a b := by
  rw [compareOp_int x y a b op hx hy]
  cases op <;> simp [rel]

/-- Exactly one of `<`, `=`, `>` holds between two integer operands. -/
theorem int_trichotomy (x y : Operand) (a b : Int) (hx : ival x = some a) (hy : ival y = some b) :
    (compareOp x .lt y = true ∧ compareOp x .eq y = false ∧ compareOp x .gt y = false) ∨
    (compareOp x .lt y = false ∧ compareOp x .eq y = true ∧ compareOp x .gt y = false) ∨
    (compareOp x .lt y = false ∧ compareOp x .eq y = false ∧ compareOp x .gt y = true) := by
  simp only [compareOp_int x y a b _ hx hy, decide_eq_true_eq, decide_eq_false_iff_not, beq_iff_eq,
    beq_eq_false_iff_ne]
  omega

/-- `>=` and `<=` are the unions of `>`/`<` with `=` (integers). -/
theorem int_ge_union (x y : Operand) (a b : Int) (hx : ival x = some a) (hy : ival y = some b) :
    compareOp x .ge y = (compareOp x .gt y || compareOp x .eq y) := by
  rw [Bool.eq_iff_iff]
  simp only [compareOp_int x y a b _ hx hy, Bool.or_eq_true, decide_eq_true_eq, beq_iff_eq]
  omega

theorem int_le_union (x y : Operand) (a b : Int) (hx : ival x = some a) (hy : ival y = some b) :
    compareOp x .le y = (compareOp x .lt y || compareOp x .eq y) := by
  rw [Bool.eq_iff_iff]
  simp only [compareOp_int x y a b _ hx hy, Bool.or_eq_true, decide_eq_true_eq, beq_iff_eq]
  omega

/-- For non-NaN doubles exactly one of `<`, `=`, `>` holds (IEEE: the two zeros are equal). -/
theorem float_trichotomy (a b : Nat) (ha : F64.isNaN a = false) (hb : F64.isNaN b = false) :
    (F64.lt a b = true ∧ F64.eq a b = false ∧ F64.lt b a = false) ∨
    (F64.lt a b = false ∧ F64.eq a b = true ∧ F64.lt b a = false) ∨
    (F64.lt a b = false ∧ F64.eq a b = false ∧ F64.lt b a = true) := by
  simp only [F64.lt, F64.eq, ha, hb, Bool.not_false, Bool.true_and, decide_eq_true_eq,
    decide_eq_false_iff_not, beq_iff_eq, beq_eq_false_iff_ne]
  omega

theorem float_le_union (a b : Nat) : F64.le a b = (F64.lt a b || F64.eq a b) := by
  simp only [F64.le, F64.lt, F64.eq, ← Bool.and_or_distrib_left]
  congr 1
  rw [Bool.eq_iff_iff]
  simp only [Bool.or_eq_true, decide_eq_true_eq, beq_iff_eq]
  omega

/-- **The comparison on doubles IS the mathematical relation on their real values.** `F64.scaled b`
    is the real value of the pattern `b` times 2^1074, an exact integer (both zeros 0, infinity beyond
    every finite value; Tau/Proofs/FloatOrder.lean); `<`, `=`, `<=` on the engine's order key hold
    exactly when they hold between those values. -/
theorem float_lt_real (a b : Nat) :
    F64.lt a b = true ↔ F64.isNaN a = false ∧ F64.isNaN b = false ∧ F64.scaled a < F64.scaled b := by
  simp only [F64.lt, Bool.and_eq_true, Bool.not_eq_true', decide_eq_true_eq, F64.key_lt_iff, and_assoc]

theorem float_eq_real (a b : Nat) :
    F64.eq a b = true ↔ F64.isNaN a = false ∧ F64.isNaN b = false ∧ F64.scaled a = F64.scaled b := by
  simp only [F64.eq, Bool.and_eq_true, Bool.not_eq_true', beq_iff_eq, F64.key_eq_iff, and_assoc]

theorem float_le_real (a b : Nat) :
    F64.le a b = true ↔ F64.isNaN a = false ∧ F64.isNaN b = false ∧ F64.scaled a ≤ F64.scaled b := by
  simp only [F64.le, Bool.and_eq_true, Bool.not_eq_true', decide_eq_true_eq, F64.key_le_iff, and_assoc]

/-- Sanity of `scaled` (tests, not theorems about all inputs): 1.0, -2.5, the smallest subnormal,
    the two zeros, and +inf above the largest finite double. -/
example : F64.scaled 0x3FF0000000000000 = 2 ^ 1074 := by decide +kernel
example : F64.scaled 0xC004000000000000 * 2 = -5 * 2 ^ 1074 := by decide +kernel
example : F64.scaled 1 = 1 ∧ F64.scaled 0 = 0 ∧ F64.scaled 0x8000000000000000 = 0 := by decide
example : F64.scaled 0x7FEFFFFFFFFFFFFF < F64.scaled 0x7FF0000000000000 := by decide +kernel

/-- A NaN operand makes every comparison false. -/
theorem float_nan_false (a b : Nat) (h : F64.isNaN a = true ∨ F64.isNaN b = true) :
    F64.lt a b = false ∧ F64.eq a b = false ∧ F64.le a b = false ∧ F64.lt b a = false := by
  rcases h with h | h <;> simp [F64.lt, F64.eq, F64.le, h]

/-- The engine's `>` on doubles is `<` with the operands swapped, `>=` likewise. -/
theorem float_cmp (a b : Nat) :
    compareOp (.f a) .gt (.f b) = F64.lt b a ∧ compareOp (.f a) .ge (.f b) = F64.le b a ∧
    compareOp (.f a) .lt (.f b) = F64.lt a b ∧ compareOp (.f a) .le (.f b) = F64.le a b ∧
    compareOp (.f a) .eq (.f b) = F64.eq a b :=
  ⟨rfl, rfl, rfl, rfl, rfl⟩

/-- Operands of different numeric kinds (integer against double) never compare true: the
    engine answers false rather than converting with loss. -/
theorem mixed_kind_false (a : Int) (b : Nat) (op : BoolSym) :
    compareOp (.i a) op (.f b) = false ∧ compareOp (.f b) op (.i a) = false :=
  ⟨rfl, rfl⟩

/-! ### Casts

`int()` of a boolean is 0/1 and of a numeric string its `i64` value; a string that is not an `i64`,
an unsigned number above `i64::MAX`, a NaN or an infinite double, null, arrays and objects are not
convertible: the comparison is false (never a panic, never a wrapped value). -/

theorem int_cast_bool (kvs : List (Str × Value)) (f : Str) (b : Bool)
    (h : (Doc.obj kvs).find f = some (.bool b)) :
    operand (.obj kvs) (.cast f .int) = .ok (.i (if b then 1 else 0)) := by
  simp [operand, h]

theorem int_cast_string (d : Doc) (f s : Str) (h : d.find f = some (.str s)) :
    operand d (.cast f .int) = (match parseI64 s with | some i => .ok (.i i) | none => .error .f) := by
  simp only [operand, h]
  cases parseI64 s <;> rfl

theorem int_cast_unsigned_too_big (d : Doc) (f : Str) (u : Nat) (h : d.find f = some (.uint u))
    (hu : (u : Int) > i64Max) : operand d (.cast f .int) = .error .f := by
  simp [operand, h]; omega

theorem int_cast_nan_or_inf (d : Doc) (f : Str) (b : Nat) (s : Str) (h : d.find f = some (.flt b s))
    (hb : F64.isNaN b = true ∨ F64.expo b = 2047) : operand d (.cast f .int) = .error .f := by
  simp only [operand, h]
  rcases hb with hb | hb <;> simp [hb]

theorem cast_not_convertible (d : Doc) (f : Str) (m : ModSym) (hm : m = .int ∨ m = .flt)
    (h : d.find f = some .null ∨ (∃ xs, d.find f = some (.arr xs)) ∨ (∃ kvs, d.find f = some (.obj kvs))) :
    operand d (.cast f m) = .error .f := by
  rcases hm with rfl | rfl <;> rcases h with h | ⟨xs, h⟩ | ⟨kvs, h⟩ <;> simp [operand, h]

/-- A comparison over a missing field is missing, never true (`solveCmp_field_missing`: for every
    operator and right side). -/
theorem missing_field (d : Doc) (f : Str) (op : BoolSym) (r : Expr) (hop : op ≠ .and ∧ op ≠ .or)
    (h : d.find f = none) (hr : r = .int 0 ∨ r = .float 0) :
    solveCmp d (.field f) op r = .m :=
  solveCmp_field_missing d f op r h

/-- `str()` compares the canonical decimal text. -/
theorem str_cast_text (E : RegexEngine) (d : Doc) (f t : Str) (v : Value) (txt : Str)
    (h : d.find f = some v) (hv : scalarText v = some txt) :
    solveSearch E d (.exact t) f true = Tri.ofBool (t == txt) := by
  simp only [solveSearch, h, onFieldValue_scalar _ v txt hv, searchStr]
  cases t == txt <;> rfl

/-- Non-vacuity: the 2^63 boundary that the unrepaired source got wrong. -/
example : compareOp (.u 9223372036854775808) .gt (.i 5) = true ∧
    compareOp (.u 9223372036854775808) .lt (.i 5) = false ∧
    compareOp (.i (-1)) .lt (.u 18446744073709551615) = true := by decide

end Tau.C09
