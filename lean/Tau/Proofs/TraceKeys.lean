import Tau.Trace
import Tau.Proofs.Frame
/-
  Every key the solver asks of the document is one of the keys the expression names (`keysOf`).
  The traced loops build their list from `[]`, `k :: ·`, `· ++ ·` and `if`: each lemma says of one
  loop that its list is `⊆` a fixed `S`, by `nil_subset`, `cons_subset`, `append_subset`, `ite_subset`.
-/
namespace Tau
open List (nil_subset cons_subset append_subset subset_append_left subset_append_of_subset_left
  subset_append_of_subset_right)

theorem ite_subset {α} {c : Prop} [Decidable c] {a b S : List α} (ha : a ⊆ S) (hb : b ⊆ S) :
    (if c then a else b) ⊆ S := by
  split <;> assumption

theorem operandKeys_sub (e : Expr) : operandKeys e ⊆ operandField e := by
  cases e with
  | field f => exact .refl _
  | cast f m => cases m <;> first | exact .refl _ | exact nil_subset _
  | _ => exact nil_subset _

theorem cmpKeys_sub (d : Doc) (l : Expr) (op : BoolSym) (r : Expr) :
    cmpKeys d l op r ⊆ operandField l ++ operandField r := by
  unfold cmpKeys
  split
  · rename_i lf rf
    have h1 : [lf] ⊆ [lf] ++ [rf] := subset_append_left _ _
    split
    · exact h1
    · exact ite_subset (.refl _) h1
  · exact .refl _
  · exact .refl _
  · have hl := subset_append_of_subset_left (operandField r) (operandKeys_sub l)
    split
    · exact hl
    · exact append_subset.mpr ⟨hl, subset_append_of_subset_right _ (operandKeys_sub r)⟩

-- every key `rowT` emits is the `col` of a successful `cols[i]?`
theorem rowT_sub (d : Doc) (cols : List Str) (ev : List (Option Value) → Expr → Tri)
    (row : List (Option Expr)) (i : Nat) (cache : List (Option Value)) : rowT d cols row i cache ev ⊆ cols := by
  fun_induction rowT d cols row i cache ev
  case case1 | case4 | case5 => exact nil_subset _
  case case2 ih | case3 ih => exact ih
  case case6 hk _ | case8 hk _ _ _ _ => exact cons_subset.mpr ⟨List.mem_of_getElem? hk, nil_subset _⟩
  case case7 hk _ _ _ _ ih => exact cons_subset.mpr ⟨List.mem_of_getElem? hk, ih⟩

theorem rowsT_sub (E : RegexEngine) (K : IdentK) (d : Doc) (cols : List Str) (stop : Tri → Bool) :
    ∀ (rows : List (List (Option Expr))) (cache : List (Option Value)),
      (rowsT E K d cols rows cache stop).1 ⊆ cols
  | [], _ => nil_subset _
  | row :: rows, cache => by
    have ht := rowT_sub d cols (fun c e => solveG E K (.cache c) e) row 0 cache
    simp only [rowsT]
    split
    · exact ht
    · exact append_subset.mpr ⟨ht, rowsT_sub E K d cols stop rows _⟩

theorem rowsOfT_sub (E : RegexEngine) (K : IdentK) (d : Doc) (cols : List Str) (c : Nat) :
    ∀ (rows : List (List (Option Expr))) (cache : List (Option Value)) (hits : Nat),
      rowsOfT E K d cols rows cache c hits ⊆ cols
  | [], _, _ => nil_subset _
  | row :: rows, cache, hits => by
    have ht := rowT_sub d cols (fun c e => solveG E K (.cache c) e) row 0 cache
    have ih := fun n => append_subset.mpr ⟨ht, rowsOfT_sub E K d cols c rows (rowG E K d cols row 0 cache).2 n⟩
    exact ite_subset (ite_subset ht (ih _)) (ih _)

/-- The three member loops ask what their members ask. -/
theorem members_sub {E : RegexEngine} {K : IdentK} {T : TraceK} {d : Doc} {S : List Str} (es : List Expr)
    (h : ∀ e ∈ es, traceG E K T d e ⊆ S) :
    andT E K T d es ⊆ S ∧ orT E K T d es ⊆ S ∧ ∀ c count, ofT E K T d c count es ⊆ S := by
  induction es with
  | nil => exact ⟨nil_subset _, nil_subset _, fun _ _ => nil_subset _⟩
  | cons x xs ih =>
    obtain ⟨ha, ho, hof⟩ := ih fun e he => h e (List.mem_cons_of_mem _ he)
    have hx := h x List.mem_cons_self
    exact ⟨append_subset.mpr ⟨hx, ite_subset ha (nil_subset _)⟩,
      append_subset.mpr ⟨hx, ite_subset (nil_subset _) ho⟩,
      -- after a member the loop either stops or goes on over the tail with some count
      fun c count => append_subset.mpr ⟨hx, ite_subset
        (ite_subset (nil_subset _) (ite_subset (nil_subset _) (hof _ _))) (hof _ _)⟩⟩

section
variable {E : RegexEngine} {K : IdentK} {T : TraceK} {d : Doc}

theorem traceG_cmp {l r : Expr} {op : BoolSym} (h : op ≠ .and ∧ op ≠ .or) :
    traceG E K T d (.bin l op r) = cmpKeys d l op r := by
  cases op with
  | and => exact absurd rfl h.1
  | or => exact absurd rfl h.2
  | _ => rfl

theorem traceG_match {m : MatchK} {e : Expr} (hi : ∀ i, e ≠ .ident i)
    (hg : ∀ op es, e ≠ .group op es) (hm : ∀ cols rows, e ≠ .matrix cols rows) :
    traceG E K T d (.match m e) = traceG E K T d e := by
  cases m <;> cases e with
    | ident i => exact absurd rfl (hi i)
    | group op es => exact absurd rfl (hg op es)
    | matrix cols rows => exact absurd rfl (hm cols rows)
    | search s f c => cases s <;> rfl
    | _ => rfl

/-- Every key asked of the document while evaluating `e` is in `S`, if the keys `e` names are and
    those the identifier continuation asks for. -/
theorem traceG_sub {S : List Str} (hTi : ∀ i, T.ident i d ⊆ S) (hTm : ∀ m i, T.match m i d ⊆ S) {e : Expr} :
    keysOf e ⊆ S → traceG E K T d e ⊆ S := by
  induction e using Expr.solver_induct with
  | group op es ih =>
    intro hS
    have h := members_sub es fun x hx => ih x hx ((keysOfL_mem es x hx).trans hS)
    cases op with
    | and => exact h.1
    | or => exact h.2.1
    | _ => exact nil_subset _
  | bin l op r hop ihl ihr =>
    intro hS
    rcases hop with rfl | rfl <;> obtain ⟨hl, hr⟩ := append_subset.mp hS
    · exact append_subset.mpr ⟨ihl hl, ite_subset (ihr hr) (nil_subset _)⟩
    · exact append_subset.mpr ⟨ihl hl, ite_subset (nil_subset _) (ihr hr)⟩
  | cmp l op r hop => rw [traceG_cmp hop, keysOf_cmp hop]; exact (cmpKeys_sub d l op r).trans
  | ident i => exact fun _ => hTi i
  | matchIdent m i => cases m <;> exact fun _ => hTm _ i
  | matchGroup m op es ih =>
    -- all()/of() looks through a group of any symbol at its members
    intro hS
    have h := members_sub es fun x hx => ih x hx ((keysOfL_mem es x hx).trans hS)
    cases m
    · exact h.1
    · exact h.2.2 _ 0
  | matchMatrix m cols rows =>
    refine .trans ?_
    cases m with
    | all => exact rowsT_sub E K d cols _ rows _
    | of c => exact ite_subset (rowsT_sub E K d cols _ rows _) (rowsOfT_sub E K d cols c rows _ 0)
  | matchFt m x hi hg hm ih => rw [traceG_match hi hg hm]; exact ih
  | matrix cols rows => exact (rowsT_sub E K d cols _ rows _).trans
  | negate x ih => exact ih
  | nested f x => exact id
  | nestedAllOr f es => exact id
  | nestedAllMatrix f cols rows => exact id
  | search s f c => exact id
  | lit e h => cases e <;> cases h <;> exact fun _ => nil_subset _

end

/-- **Trace ⊆ named keys.** Every key asked of the document while evaluating `e` is one of
    `keysOf e`, or one the identifier continuation asks for (`extra`). The size bound is not used:
    `traceG_sub`. -/
theorem trace_sub (E : RegexEngine) (K : IdentK) (T : TraceK) (d : Doc) (extra : List Str)
    (hTi : ∀ i, ∀ k ∈ T.ident i d, k ∈ extra) (hTm : ∀ m i, ∀ k ∈ T.match m i d, k ∈ extra) :
    ∀ (n : Nat) (e : Expr), e.size ≤ n → ∀ k ∈ traceG E K T d e, k ∈ keysOf e ∨ k ∈ extra :=
  fun _ _ _ _ hk => List.mem_append.mp (traceG_sub (fun i => subset_append_of_subset_right _ (hTi i))
    (fun m i => subset_append_of_subset_right _ (hTm m i)) (subset_append_left _ _) hk)

end Tau
