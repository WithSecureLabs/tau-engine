import Tau.Proofs.Solver
/-
  `solveG_sim`: two solver configurations related by a relation `R` that every solver step preserves
  (`Step`) give the same result; what the solver reads of the two documents may differ by a map on
  values it cannot see through (`ValMap`).

  A client picks `M` and `R` (usually `d' = Φ d ∧ e' = ψ e`) and proves `R d e d' e' → Step …` by
  `cases e`: the constructor of `Step` for each arm, `.done` for leaves, identifiers and arms it has a
  direct proof for. The image is on the RIGHT (`d'` finds `M.val` of what `d` finds). `R` must hold of
  the documents the solver makes up: `.obj k` / `.obj (M.kvs k)`, `.cache c` / `.cache (M.cache c)`,
  `.pass o` / `.pass (o.map M.val)`.
-/
namespace Tau

/-- A map on document values that the solver cannot see through: it keeps their kind, commutes with
    `find`, and leaves what a string predicate reads of a value (solver.rs:802-878) as it is. -/
structure ValMap where
  val : Value → Value
  kvs : List (Str × Value) → List (Str × Value)
  obj : ∀ v, objOf (val v) = (objOf v).map kvs
  arr : ∀ v, arrOf (val v) = (arrOf v).map (List.map val)
  find : ∀ k col, objFind (kvs k) col = (objFind k col).map val
  field : ∀ c p v, onFieldValue c p (val v) = onFieldValue c p v

namespace ValMap

protected def id : ValMap :=
  ⟨id, id, fun _ => by simp, fun _ => by simp, fun _ _ => by simp, fun _ _ _ => rfl⟩

variable (M : ValMap)

def cache (c : List (Option Value)) : List (Option Value) := c.map (Option.map M.val)

@[simp] theorem id_val : ValMap.id.val = id := rfl
@[simp] theorem id_cache (c : List (Option Value)) : ValMap.id.cache c = c := by simp [cache]

def res {α} (r : α × List (Option Value)) : α × List (Option Value) := (r.1, M.cache r.2)

theorem cache_get (c : List (Option Value)) (i : Nat) :
    ((M.cache c)[i]?).join = ((c[i]?).join).map M.val := by
  simp only [cache, List.getElem?_map]
  cases c[i]? with
  | none => rfl
  | some o => cases o <;> rfl

theorem cache_set (c : List (Option Value)) (i : Nat) (v : Value) :
    M.cache (cacheSet c i v) = cacheSet (M.cache c) i (M.val v) := by
  unfold cache cacheSet
  rw [List.map_set]
  rfl

theorem cache_empty (cols : List Str) : M.cache (emptyCache cols) = emptyCache cols := by
  simp [cache, emptyCache]

theorem elemObjs_map (a : List Value) : elemObjs (a.map M.val) = (elemObjs a).map M.kvs := by
  show (a.map M.val).filterMap objOf = (a.filterMap objOf).map M.kvs
  rw [List.filterMap_map, List.map_filterMap]
  exact congrArg (List.filterMap · a) (funext M.obj)

end ValMap

theorem nestedWith_map (M : ValMap) {onObj onObj' : List (Str × Value) → Tri} {onArr onArr' : List Value → Tri}
    (hobj : ∀ k, onObj k = onObj' (M.kvs k)) (harr : ∀ a, onArr a = onArr' (a.map M.val)) :
    ∀ o, nestedWith onObj onArr o = nestedWith onObj' onArr' (o.map M.val)
  | none => rfl
  | some v => by
    simp only [nestedWith, Option.map_some, M.obj, M.arr]
    cases objOf v <;> cases arrOf v <;> first | rfl | exact hobj _ | exact harr _

section
variable {E : RegexEngine} {K : IdentK}

theorem solveG_search_map (M : ValMap) {d d' : Doc} {f : Str} (hf : d'.find f = (d.find f).map M.val)
    (k : Option MatchK) (s : Search) (c : Bool) :
    solveG E K d (underMatch k (.search s f c)) = solveG E K d' (underMatch k (.search s f c)) := by
  -- every arm for a search tests the found value through `onFieldValue`
  have found : ∀ p, (match d.find f with | none => Tri.m | some v => triOfOpt (onFieldValue c p v)) =
      match d'.find f with | none => Tri.m | some v => triOfOpt (onFieldValue c p v) := fun p => by
    rw [hf]; cases d.find f <;> simp only [Option.map, M.field]
  have bare : solveG E K d (.search s f c) = solveG E K d' (.search s f c) := found _
  cases k with
  | none => exact bare
  | some k =>
    cases hown : matchOwnArm (.search s f c) with
    | false => rw [underMatch, match_ft E K d k _ hown, match_ft E K d' k _ hown, bare]
    | true =>
      cases s with
      | ac | regexSet =>
        cases k with
        | all => exact found _
        | of n => exact ite_congr rfl (fun _ => congrArg ofZero bare) fun _ => found _
      | _ => cases hown

variable (M : ValMap)

theorem rowG_sim {d d' : Doc} {cols : List Str} (hfind : ∀ col ∈ cols, d'.find col = (d.find col).map M.val) :
    ∀ (row : List (Option Expr)) (i : Nat) (c : List (Option Value)),
      (∀ e, some e ∈ row → ∀ c, solveG E K (.cache c) e = solveG E K (.cache (M.cache c)) e) →
      rowG E K d' cols row i (M.cache c) = M.res (rowG E K d cols row i c)
  | [], _, _, _ => rfl
  | none :: cells, i, c, hc => by
    simp only [rowG]
    exact rowG_sim hfind cells (i + 1) c fun e he => hc e (by simp [he])
  | some e :: cells, i, c, hc => by
    have cell : ∀ c₁,
        (match solveG E K (.cache (M.cache c₁)) e with
          | .t => rowG E K d' cols cells (i + 1) (M.cache c₁)
          | r => (r, M.cache c₁)) =
        M.res (match solveG E K (.cache c₁) e with
          | .t => rowG E K d cols cells (i + 1) c₁
          | r => (r, c₁)) := by
      intro c₁
      rw [← hc e (by simp) c₁]
      cases solveG E K (.cache c₁) e with
      | t => exact rowG_sim hfind cells (i + 1) c₁ fun e he => hc e (by simp [he])
      | f => rfl
      | m => rfl
    simp only [rowG]
    rw [M.cache_get]
    cases (c[i]?).join with
    | some v => exact cell c
    | none =>
      cases hcol : cols[i]? with
      | none => rfl
      | some col =>
        simp only [Option.map_none, hfind col (List.mem_of_getElem? hcol)]
        cases d.find col with
        | none => rfl
        | some v =>
          simp only [Option.map_some]
          rw [← M.cache_set]
          exact cell _

theorem rowsG_sim {d d' : Doc} {cols : List Str} (hfind : ∀ col ∈ cols, d'.find col = (d.find col).map M.val) :
    ∀ (rows : List (List (Option Expr))) (c : List (Option Value)),
      (∀ row ∈ rows, ∀ e, some e ∈ row → ∀ c, solveG E K (.cache c) e = solveG E K (.cache (M.cache c)) e) →
      rowsG E K d' cols rows (M.cache c) = M.res (rowsG E K d cols rows c)
  | [], _, _ => rfl
  | row :: rows, c, hc => by
    simp only [rowsG]
    rw [rowG_sim M hfind row 0 c (hc row (by simp))]
    simp only [ValMap.res]
    rw [rowsG_sim hfind rows _ fun r hr => hc r (by simp [hr])]
    rfl

theorem passRowG_cons (v : Value) (cols : List Str) (e : Expr) (cells : List (Option Expr)) (i : Nat) :
    passRowG E K v cols (some e :: cells) i =
      match objOf v with
      | some k =>
        (match solveG E K (.pass ((cols[i]?).bind (objFind k))) e with
          | .t => passRowG E K v cols cells (i + 1)
          | r => r)
      | none => passRowG E K v cols cells (i + 1) := by
  cases v <;> rfl

theorem passRowG_sim (v : Value) (cols : List Str) :
    ∀ (row : List (Option Expr)) (i : Nat),
      (∀ e, some e ∈ row → ∀ o, solveG E K (.pass o) e = solveG E K (.pass (o.map M.val)) e) →
      passRowG E K (M.val v) cols row i = passRowG E K v cols row i
  | [], _, _ => rfl
  | none :: cells, i, hc => by
    simp only [passRowG]
    exact passRowG_sim v cols cells (i + 1) fun e he => hc e (by simp [he])
  | some e :: cells, i, hc => by
    rw [passRowG_cons, passRowG_cons, M.obj, passRowG_sim v cols cells (i + 1) fun e he => hc e (by simp [he])]
    cases objOf v with
    | none => rfl
    | some k =>
      have : (cols[i]?).bind (objFind (M.kvs k)) = ((cols[i]?).bind (objFind k)).map M.val := by
        cases cols[i]? with
        | none => rfl
        | some col => exact M.find k col
      simp only [Option.map_some]
      rw [this, ← hc e (by simp)]

theorem nestedAllMatrixG_sim (a : List Value) (cols : List Str) :
    ∀ (rows : List (List (Option Expr))),
      (∀ row ∈ rows, ∀ e, some e ∈ row → ∀ o, solveG E K (.pass o) e = solveG E K (.pass (o.map M.val)) e) →
      nestedAllMatrixG E K (a.map M.val) cols rows = nestedAllMatrixG E K a cols rows
  | [], _ => rfl
  | row :: rows, hc => by
    simp only [nestedAllMatrixG, List.any_map]
    rw [nestedAllMatrixG_sim a cols rows fun r hr => hc r (by simp [hr])]
    have : ((fun v => passRowG E K v cols row 0 == .t) ∘ M.val) = fun v => passRowG E K v cols row 0 == .t :=
      funext fun v => by simp only [Function.comp, passRowG_sim M v cols row 0 (hc row (by simp))]
    rw [this]

/-- One solver step takes related configurations to related ones: a constructor for each way `solveG`
    descends, one for a search, `done` for whatever is already known to agree. Members correspond
    through `φ`, given as `es' = es.map φ` (`(List.map_id _).symm` for `φ = id`) so that the goal is
    not rewritten. -/
inductive Step (E : RegexEngine) (K : IdentK) (M : ValMap) (R : Doc → Expr → Doc → Expr → Prop) :
    Doc → Expr → Doc → Expr → Prop
  | done {d e d' e'} : solveG E K d e = solveG E K d' e' → Step E K M R d e d' e'
  | group {d d' es es'} (k : Option MatchK) (op : BoolSym) (φ : Expr → Expr) : es' = es.map φ →
      (∀ x ∈ es, R d x d' (φ x)) →
      Step E K M R d (underMatch k (.group op es)) d' (underMatch k (.group op es'))
  | bin {d d' l l' r r'} (op : BoolSym) : op = .and ∨ op = .or → R d l d' l' → R d r d' r' →
      Step E K M R d (.bin l op r) d' (.bin l' op r')
  | negate {d d' x x'} : R d x d' x' → Step E K M R d (.negate x) d' (.negate x')
  | search {d d' f} (k : Option MatchK) (s : Search) (c : Bool) : d'.find f = (d.find f).map M.val →
      Step E K M R d (underMatch k (.search s f c)) d' (underMatch k (.search s f c))
  | matchFt {d d' x x'} (k : MatchK) : matchOwnArm x = false → matchOwnArm x' = false →
      R d x d' x' → Step E K M R d (.match k x) d' (.match k x')
  | matrix {d d' cols rows} (k : Option MatchK) : (∀ col ∈ cols, d'.find col = (d.find col).map M.val) →
      (∀ row ∈ rows, ∀ e, some e ∈ row → ∀ c, R (.cache c) e (.cache (M.cache c)) e) →
      Step E K M R d (underMatch k (.matrix cols rows)) d' (underMatch k (.matrix cols rows))
  | nested {d d' f x x'} : nestedSpecial x = false → nestedSpecial x' = false →
      d'.find f = (d.find f).map M.val → (∀ k, R (.obj k) x (.obj (M.kvs k)) x') →
      Step E K M R d (.nested f x) d' (.nested f x')
  | nestedAllOr {d d' f es es'} (φ : Expr → Expr) : es' = es.map φ → d'.find f = (d.find f).map M.val →
      (∀ x ∈ es, ∀ k, R (.obj k) x (.obj (M.kvs k)) (φ x)) →
      Step E K M R d (.nested f (.match .all (.group .or es))) d' (.nested f (.match .all (.group .or es')))
  | nestedAllMatrix {d d' f cols rows} : d'.find f = (d.find f).map M.val →
      (∀ row ∈ rows, ∀ e, some e ∈ row → (∀ c, R (.cache c) e (.cache (M.cache c)) e) ∧
        ∀ o, R (.pass o) e (.pass (o.map M.val)) e) →
      Step E K M R d (.nested f (.match .all (.matrix cols rows))) d' (.nested f (.match .all (.matrix cols rows)))

theorem size_underMatch (k : Option MatchK) (e : Expr) : e.size ≤ (underMatch k e).size := by
  cases k with
  | none => exact Nat.le_refl _
  | some k => exact Nat.le_add_left _ _

-- on the size of the left expression, which every constructor but `done` decreases; each arm is the
-- congruence of that arm of `solveG` (Solver.lean) over the induction hypothesis
private theorem solveG_sim_aux {R : Doc → Expr → Doc → Expr → Prop}
    (step : ∀ {d e d' e'}, R d e d' e' → Step E K M R d e d' e') :
    ∀ (n : Nat) (e : Expr), e.size < n → ∀ {d d' e'}, R d e d' e' → solveG E K d e = solveG E K d' e' := by
  intro n
  induction n with
  | zero => exact fun _ hs => nomatch hs
  | succ n ih =>
    intro e hs d d' e' hR
    -- but for `bin`, a node is one more than what is below it: `sub` for the node itself, `up` for
    -- each node passed on the way down to a list
    have sub : ∀ {a}, 1 + a < n + 1 → a < n := fun h => by omega
    have up : ∀ {a}, 1 + a < n → a < n := fun h => by omega
    have mem : ∀ {d d' : Doc} {es : List Expr} {φ : Expr → Expr}, Expr.size.sizeL es < n →
        (∀ x ∈ es, R d x d' (φ x)) → es.map (solveG E K d) = (es.map φ).map (solveG E K d') :=
      fun hsz h => by
        rw [List.map_map]
        exact List.map_congr_left fun x hx => ih x (Nat.lt_of_le_of_lt (size_mem_lt _ x hx) hsz) (h x hx)
    have cellsz : ∀ {rows : List (List (Option Expr))}, Expr.size.sizeRows rows < n →
        ∀ row ∈ rows, ∀ x, some x ∈ row → x.size < n := fun hsz row hrow x hx =>
      Nat.lt_of_le_of_lt (Nat.le_trans (sizeRow_mem row x hx) (sizeRows_mem _ row hrow)) hsz
    have rows : ∀ {d d' : Doc} {cols rows}, Expr.size.sizeRows rows < n →
        (∀ col ∈ cols, d'.find col = (d.find col).map M.val) →
        (∀ row ∈ rows, ∀ e, some e ∈ row → ∀ c, R (.cache c) e (.cache (M.cache c)) e) →
        (rowsG E K d cols rows (emptyCache cols)).1 = (rowsG E K d' cols rows (emptyCache cols)).1 :=
      fun {d d' cols rows} hsz hfind hcell => by
        have := rowsG_sim M hfind rows (emptyCache cols) fun row hrow x hx c =>
          ih x (cellsz hsz row hrow x hx) (hcell row hrow x hx c)
        rw [M.cache_empty] at this
        exact (congrArg Prod.fst this).symm
    cases step hR with
    | done h => exact h
    | group k op φ hes h =>
      subst hes
      exact group_congr E K k op (mem (sub (Nat.lt_of_le_of_lt (size_underMatch k (.group op _)) hs)) h)
    | bin op hop hl hr =>
      simp only [Expr.size] at hs
      exact bin_congr E K hop (ih _ (by omega) hl) (ih _ (by omega) hr)
    | negate hx => exact congrArg Tri.not (ih _ (sub hs) hx)
    | search k s c hf => exact solveG_search_map M hf k s c
    | matchFt k hx hx' hr => rw [match_ft E K d k _ hx, match_ft E K d' k _ hx', ih _ (sub hs) hr]
    | matrix k hfind hcell =>
      exact matrix_congr E K k _ _ (rows (sub (Nat.lt_of_le_of_lt (size_underMatch k (.matrix _ _)) hs)) hfind hcell)
    | nested hx hx' hf hr =>
      rw [solveG_nested, solveG_nested, hf]
      refine nestedWith_map M (fun k => ih _ (sub hs) (hr k)) (fun a => ?_) _
      rw [nestedOnArr_plain E K hx, nestedOnArr_plain E K hx', M.elemObjs_map, List.any_map]
      exact congrArg _ (List.any_congr rfl fun k => by simp only [Function.comp, ih _ (sub hs) (hr k)])
    | nestedAllOr φ hes hf h =>
      subst hes
      have hsz := up (up (sub hs))
      rw [solveG_nested, solveG_nested, hf]
      refine nestedWith_map M (fun k => ?_) (fun a => ?_) _
      · exact group_congr E K (some .all) .or (mem hsz fun x hx => h x hx k)
      · simp only [nestedOnArr]
        rw [nestedAllOrG_eq, nestedAllOrG_eq, M.elemObjs_map, List.map_map]
        refine congrArg _ (List.map_congr_left fun x hx => ?_)
        simp only [Function.comp, List.any_map]
        exact congrArg _ (List.any_congr rfl fun k => by
          simp only [Function.comp, ih x (Nat.lt_of_le_of_lt (size_mem_lt _ x hx) hsz) (h x hx k)])
    | nestedAllMatrix hf hcell =>
      have hsz := up (up (sub hs))
      rw [solveG_nested, solveG_nested, hf]
      refine nestedWith_map M (fun k => ?_) (fun a => ?_) _
      · exact matrix_congr E K (some .all) _ _ (rows (d := .obj k) (d' := .obj (M.kvs k)) hsz
          (fun col _ => M.find k col) fun row hrow x hx => (hcell row hrow x hx).1)
      · exact (nestedAllMatrixG_sim M a _ _ fun row hrow x hx o =>
          ih x (cellsz hsz row hrow x hx) ((hcell row hrow x hx).2 o)).symm

theorem solveG_sim {R : Doc → Expr → Doc → Expr → Prop}
    (step : ∀ {d e d' e'}, R d e d' e' → Step E K M R d e d' e') {d e d' e'} (h : R d e d' e') :
    solveG E K d e = solveG E K d' e' :=
  solveG_sim_aux M step _ e (Nat.lt_succ_self _) h

end
end Tau
