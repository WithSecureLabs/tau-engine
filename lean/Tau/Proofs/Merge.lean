import Tau.Mapping
import Tau.Proofs.Solver
/-
  Merged operands are exact: a batched automaton / regex set is the three-valued `or` of its members
  searched one by one, and nested blocks over one field merge into one block. These are the merges
  `shake_1` and the sequence branch of the mapping parser make, each on its own.
-/
namespace Tau

/-- An array offers a test the texts of its elements; any other value is tested as an element is. -/
theorem onFieldValue_view (c : Bool) (v : Value) :
    (∃ xs : List Str, ∀ p, onFieldValue c p v = some (xs.any p)) ∨
      ∀ p, onFieldValue c p v = (elemText c v).map p := by
  cases v with
  | arr a =>
    refine .inl ⟨a.filterMap (elemText c), fun p => ?_⟩
    simp only [onFieldValue, List.any_filterMap]
    congr; funext v; cases elemText c v <;> rfl
  | _ => exact .inr fun p => by cases c <;> rfl

theorem onFieldValue_any {α} (c : Bool) (xs : List α) (q : α → Str → Bool) (hne : xs ≠ []) (v : Value) :
    triOfOpt (onFieldValue c (fun h => xs.any (q · h)) v) =
      Tri.or (xs.map fun x => triOfOpt (onFieldValue c (q x) v)) := by
  rcases onFieldValue_view c v with ⟨ts, h⟩ | h <;> simp only [h, triOfOpt_some]
  · rw [or_map_bool xs (fun x => ts.any (q x)) hne, any_any_comm]
  · cases elemText c v with
    | none => exact (or_map_const_m xs).symm
    | some t => simp only [Option.map_some, triOfOpt_some]; exact (or_map_bool xs (q · t) hne).symm

theorem search_any_or (E : RegexEngine) (d : Doc) (s : Search) {α} (xs : List α) (g : α → Search) (hne : xs ≠ [])
    (f : Str) (c : Bool) (hs : ∀ h, searchStr E s h = xs.any fun x => searchStr E (g x) h) :
    solveSearch E d s f c = Tri.or (xs.map fun x => solveSearch E d (g x) f c) := by
  unfold solveSearch
  cases d.find f with
  | none => exact (or_map_const_m xs).symm
  | some v => rw [funext hs]; exact onFieldValue_any c xs (fun x => searchStr E (g x)) hne v

theorem foldCase_false (s : Str) : foldCase false s = s := rfl

theorem relMT_false (mt : MatchType) (E : RegexEngine) (h : Str) :
    relMT false mt h = searchStr E (searchOfMatchType mt) h := by
  cases mt <;> rfl

theorem acAny_or (E : RegexEngine) (d : Doc) (ctx : List MatchType) (hne : ctx ≠ []) (ci : Bool) (f : Str) (c : Bool) :
    solveSearch E d (.ac ctx ci) f c = Tri.or (ctx.map (fun mt => solveSearch E d (.ac [mt] ci) f c)) :=
  search_any_or E d (.ac ctx ci) ctx (fun mt => .ac [mt] ci) hne f c fun _ =>
    congrArg ctx.any (funext fun _ => (Bool.or_false _).symm)

theorem iac_or (E : RegexEngine) (d : Doc) (ctx : List MatchType) (hne : ctx ≠ []) (f : Str) (c : Bool) :
    solveSearch E d (.ac ctx true) f c =
      Tri.or (ctx.map (fun mt => solveSearch E d (.ac [mt] true) f c)) :=
  acAny_or E d ctx hne true f c

-- a one-needle case-sensitive automaton is the plain search of its needle: both test `relMT false mt`
theorem ac_single_false (E : RegexEngine) (d : Doc) (mt : MatchType) (f : Str) (c : Bool) :
    solveSearch E d (.ac [mt] false) f c = solveSearch E d (searchOfMatchType mt) f c := by
  have : searchStr E (.ac [mt] false) = searchStr E (searchOfMatchType mt) :=
    funext fun h => by simp only [searchStr, List.any_cons, List.any_nil, Bool.or_false, relMT_false mt E h]
  simp only [solveSearch, this]

theorem ac_or (E : RegexEngine) (d : Doc) (ctx : List MatchType) (hne : ctx ≠ []) (f : Str) (c : Bool) :
    solveSearch E d (.ac ctx false) f c =
      Tri.or (ctx.map (fun mt => solveSearch E d (searchOfMatchType mt) f c)) := by
  rw [acAny_or E d ctx hne false f c]
  exact congrArg Tri.or (List.map_congr_left fun mt _ => ac_single_false E d mt f c)

theorem set_or (E : RegexEngine) (d : Doc) (ps : List Str) (ci : Bool) (hne : ps ≠ []) (f : Str) (c : Bool) :
    solveSearch E d (.regexSet ps ci) f c =
      Tri.or (ps.map (fun p => solveSearch E d (.regex p ci) f c)) :=
  search_any_or E d (.regexSet ps ci) ps (fun p => .regex p ci) hne f c fun _ => rfl

theorem set_single (E : RegexEngine) (d : Doc) (p : Str) (ci : Bool) (f : Str) (c : Bool) :
    solveSearch E d (.regexSet [p] ci) f c = solveSearch E d (.regex p ci) f c := by
  rw [set_or E d [p] ci (by simp) f c]; simp [or_single]

/-- A nested block over a fold `op` of members is the fold of the blocks over the members, if `op`
    keeps a list of nothing but `.m`, and of nothing but `.f`: what a missing field and a scalar give. -/
theorem nestedWith_fold {α} (op : List Tri → Tri) (xs : List α) (hm : op (xs.map fun _ => .m) = .m)
    (hf : op (xs.map fun _ => .f) = .f) {onObj : List (Str × Value) → Tri} {onArr : List Value → Tri}
    {objs : α → List (Str × Value) → Tri} {arrs : α → List Value → Tri}
    (hobj : ∀ k, onObj k = op (xs.map (objs · k))) (harr : ∀ a, onArr a = op (xs.map (arrs · a))) :
    ∀ o, nestedWith onObj onArr o = op (xs.map fun x => nestedWith (objs x) (arrs x) o)
  | none => hm.symm
  | some v => by
    cases v with
    | obj k => exact hobj k
    | arr a => exact harr a
    | _ => exact hf.symm

/-- Or-arm (what it says of tau-engine: `C01.nested_or_merge`). -/
theorem nested_or_merge (E : RegexEngine) (K : IdentK) (d : Doc) (f : Str) (xs : List Expr) (hne : xs ≠ [])
    (hns : ∀ x ∈ xs, nestedSpecial x = false) :
    solveG E K d (.nested f (.group .or xs)) = Tri.or (xs.map (fun x => solveG E K d (.nested f x))) := by
  simp only [solveG_nested]
  refine nestedWith_fold Tri.or xs (or_map_const_m xs) ((or_map_bool xs (fun _ => false) hne).trans (by simp [Tri.ofBool]))
    (fun k => group_or_value E K _ xs) (fun a => ?_) _
  -- some element makes some member true, or some member is true of some element
  rw [List.map_congr_left fun x hx => nestedOnArr_plain E K (hns x hx) a,
    or_map_bool xs (fun x => (elemObjs a).any (fun kvs => solveG E K (.obj kvs) x == .t)) hne, ← any_any_comm]
  refine congrArg Tri.ofBool (congrArg (List.any _) (funext fun kvs => ?_))
  rw [group_or_value, Bool.eq_iff_iff]
  simp only [beq_iff_eq, Tri.or_eq_t_iff, List.mem_map, List.any_eq_true]

/-- And-arm (what it says of tau-engine: `C01.nested_and_merge`). -/
theorem nested_and_merge (E : RegexEngine) (K : IdentK) (d : Doc) (f : Str) (xs : List Expr) (hne : xs ≠ [])
    (hns : ∀ x ∈ xs, nestedSpecial x = false) :
    solveG E K d (.nested f (.match .all (.group .or xs))) =
      Tri.and (xs.map (fun x => solveG E K d (.nested f x))) := by
  -- a non-empty conjunction of one and the same non-true result is that result
  have const : ∀ c : Tri, c ≠ .t → Tri.and (xs.map fun _ => c) = c := fun c hc => by
    cases xs with
    | nil => exact absurd rfl hne
    | cons y ys => cases c <;> first | exact absurd rfl hc | simp [Tri.and_cons]
  simp only [solveG_nested]
  refine nestedWith_fold Tri.and xs (const .m nofun) (const .f nofun) (fun k => andG_eq_map E K _ xs) (fun a => ?_) _
  rw [List.map_congr_left fun x hx => nestedOnArr_plain E K (hns x hx) a]
  exact nestedAllOrG_eq E K (elemObjs a) xs

end Tau
