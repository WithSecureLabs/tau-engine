import Tau.Proofs.PrattTotal
/-
  Round trip of the condition grammar: printing a condition AST with exactly the parentheses the
  binding powers require (not 95 > comparisons 90 > or 80 > and 70; `and`, `or` left-associative)
  and parsing it back yields the AST.
-/
namespace Tau

inductive CmpArg where
  | cast (f : Str) (m : ModSym)
  | int (i : Int)
  | flt (bits : Nat)

def CmpArg.toExpr : CmpArg → Expr
  | .cast f m => .cast f m
  | .int i => .int i
  | .flt b => .float b

def CmpArg.pp : CmpArg → List Token
  | .cast f m => [.modifier m, .lparen, .ident f, .rparen]
  | .int i => [.int i]
  | .flt b => [.float b]

/-- Only the operand combinations `parse_led` accepts can be built: `cmp` carries that check. -/
inductive Cond where
  | id (i : Str)
  | cmp (l : CmpArg) (op : BoolSym) (r : CmpArg)
      (ok : ledCheck op l.toExpr r.toExpr = .ok () ∧ op ≠ .and ∧ op ≠ .or)
  | all (i : Str)
  | of (i : Str) (n : Nat)
  | not (c : Cond)
  | and (a b : Cond)
  | or (a b : Cond)
  | par (c : Cond)          -- a redundant pair of parentheses written by the author

def Cond.toExpr : Cond → Expr
  | .id i => .ident i
  | .cmp l op r _ => .bin l.toExpr op r.toExpr
  | .all i => .match .all (.ident i)
  | .of i n => .match (.of n) (.ident i)
  | .not c => .negate c.toExpr
  | .and a b => .bin a.toExpr .and b.toExpr
  | .or a b => .bin a.toExpr .or b.toExpr
  | .par c => c.toExpr

/-- The binding power (`Token.bp`) of the top operator; 100 for what has none. -/
def Cond.prec : Cond → Nat
  | .and _ _ => 70
  | .or _ _ => 80
  | .cmp _ _ _ _ => 90
  | .not _ => 95
  | _ => 100

def paren (ts : List Token) : List Token := Token.lparen :: ts ++ [Token.rparen]

/-- Minimal printing: an operand is parenthesised exactly when its precedence is too low for its
    position (left operands: lower than the operator; right operands: not higher). -/
def Cond.pp : Cond → List Token
  | .id i => [.ident i]
  | .cmp l op r _ => l.pp ++ .op op :: r.pp
  | .all i => [.matchAll, .lparen, .ident i, .rparen]
  | .of i n => [.matchOf, .lparen, .ident i, .comma, .int n, .rparen]
  | .not c => .miscNot :: (if c.prec ≥ 95 then c.pp else paren c.pp)
  | .and a b => (if a.prec ≥ 70 then a.pp else paren a.pp) ++ .op .and :: (if b.prec > 70 then b.pp else paren b.pp)
  | .or a b => (if a.prec ≥ 80 then a.pp else paren a.pp) ++ .op .or :: (if b.prec > 80 then b.pp else paren b.pp)
  | .par c => paren c.pp

theorem operand_closed {P : List Token → Prop} {ts : List Token} (p : Prop) [Decidable p]
    (h : P ts) (hw : P (paren ts)) : P (if p then ts else paren ts) :=
  ite_elim (fun _ => h) (fun _ => hw)

theorem bp_le_95 (t : Token) : t.bp ≤ 95 := by
  fun_cases Token.bp t <;> decide

theorem Cond.toExpr_solvable (c : Cond) : c.toExpr.isSolvable = true := by
  induction c <;> first | rfl | assumption
theorem Cond.toExpr_negatable (c : Cond) : negatable c.toExpr = true := by
  induction c <;> first | rfl | assumption

/-- `ts` is balanced: scanning it at any depth ≥ 1 consumes it entirely and keeps the depth. -/
def Bal (ts : List Token) : Prop :=
  ∀ d ys acc, 1 ≤ d → collectParen d (ts ++ ys) acc = collectParen d ys (ts.reverse ++ acc)

theorem Bal.nil : Bal [] := by intro d ys acc _; simp

theorem Bal.single (t : Token) (h1 : t ≠ .lparen) (h2 : t ≠ .rparen) : Bal [t] := by
  intro d ys acc _
  simp [collectParen, h1, h2]

theorem Bal.append {a b : List Token} (ha : Bal a) (hb : Bal b) : Bal (a ++ b) := by
  intro d ys acc hd
  rw [List.append_assoc, ha d (b ++ ys) acc hd, hb d ys _ hd]
  simp

theorem Bal.wrap {ts : List Token} (h : Bal ts) : Bal (paren ts) := by
  intro d ys acc hd
  have hne : d ≠ 0 := by omega
  -- in at `(`, over `ts` at depth `d + 1`, out at `)` since `d + 1 ≠ 1`
  simp [paren, collectParen, h (d + 1) _ _ (Nat.le_add_left ..), hne]

theorem Bal.cons {t : Token} {ts : List Token} (h1 : t ≠ .lparen) (h2 : t ≠ .rparen) (h : Bal ts) :
    Bal (t :: ts) :=
  Bal.append (Bal.single t h1 h2) h

theorem Cond.pp_bal (c : Cond) : Bal c.pp := by
  induction c with
  | id i => exact Bal.single _ (by simp) (by simp)
  | cmp l op r _ =>
    have hop : ∀ o : CmpArg, Bal o.pp := by
      intro o
      cases o with
      | cast f m => exact .cons (by simp) (by simp) (Bal.wrap (Bal.single (.ident f) (by simp) (by simp)))
      | int | flt => exact Bal.single _ (by simp) (by simp)
    exact Bal.append (hop l) (.cons (by simp) (by simp) (hop r))
  | all i => exact .cons (by simp) (by simp) (Bal.wrap (Bal.single (.ident i) (by simp) (by simp)))
  | of i n =>
    exact .cons (by simp) (by simp) (Bal.wrap (ts := [.ident i, .comma, .int n])
      (.cons (by simp) (by simp) (.cons (by simp) (by simp) (Bal.single _ (by simp) (by simp)))))
  | not c ih => exact .cons (by simp) (by simp) (operand_closed _ ih ih.wrap)
  | and a b iha ihb | or a b iha ihb =>
    exact Bal.append (operand_closed _ iha iha.wrap) (.cons (by simp) (by simp) (operand_closed _ ihb ihb.wrap))
  | par c ih => exact Bal.wrap ih

theorem collectParen_bal (ts rest : List Token) (h : Bal ts) :
    collectParen 1 (ts ++ Token.rparen :: rest) [] = (ts, rest) := by
  rw [h 1 _ [] (Nat.le_refl _)]
  simp [collectParen]

/-- `c` may stand between a context that binds with `rbp` and the tokens `rest`: its top operator
    binds tighter than the context and at least as tight as what follows.  From 95 up nothing is
    asked: an atom is read by its NUD whatever surrounds it, and behind the operand of `not` the
    loop at 95 stops at every token (`bp_le_95`). -/
def Sits (rbp : Nat) (rest : List Token) (c : Cond) : Prop :=
  c.prec < 95 → rbp < c.prec ∧ ∀ t ∈ rest.head?, t.bp ≤ c.prec

theorem Sits.top (c : Cond) : Sits 0 [] c := fun _ => ⟨by cases c <;> simp [Cond.prec], by simp⟩

/-- `ts` in front of `rest`, in a context that binds with `rbp`, is read as the operand `e`: what
    the loop makes of `e` and `rest`, the parser makes of the text. -/
def Reads (ts : List Token) (e : Expr) (rbp : Nat) (rest : List Token) : Prop :=
  ∀ ⦃e' rest'⦄, Parses (.loop rbp e rest) e' rest' → Parses (.expr rbp (ts ++ rest)) e' rest'

theorem Reads.nud {ts rest : List Token} {e : Expr} {rbp : Nat} (h : Parses (.nud (ts ++ rest)) e rest) :
    Reads ts e rbp rest := fun _ _ hloop => .expr h hloop

/-- The rule `led` read backwards: two operands around an operator that binds tighter than the
    context and at least as tight as what follows. -/
theorem Reads.bin {lts rts rest : List Token} {l r : Expr} {sym : BoolSym} {rbp : Nat}
    (hl : Reads lts l rbp (.op sym :: (rts ++ rest))) (hr : Reads rts r (Token.op sym).bp rest)
    (hrbp : rbp < (Token.op sym).bp) (htail : ∀ t ∈ rest.head?, t.bp ≤ (Token.op sym).bp)
    (hchk : ledCheck sym l r = .ok ()) : Reads (lts ++ .op sym :: rts) (.bin l sym r) rbp rest :=
  fun _ _ hloop => by simpa using hl (.led hrbp (hr (.stop htail)) hchk hloop)

theorem CmpArg.reads (o : CmpArg) (rbp : Nat) (rest : List Token) : Reads o.pp o.toExpr rbp rest := by
  cases o with
  | cast f m => exact .nud (.cast rfl)
  | int i => exact .nud .int
  | flt b => exact .nud .float

/-- The Pratt invariant: parsing the printing of `c` in front of `rest` is parsing `c`'s tree and
    going on with the loop on it. -/
def RoundTrip (c : Cond) : Prop :=
  ∀ rbp rest, Sits rbp rest c → Reads c.pp c.toExpr rbp rest

theorem RoundTrip.all {c : Cond} (h : RoundTrip c) : Parses (.all c.pp) c.toExpr [] :=
  .all (by simpa using h 0 [] (Sits.top c) (.stop (by simp)))

theorem nud_paren (c : Cond) (h : RoundTrip c) (rest : List Token) :
    Parses (.nud (paren c.pp ++ rest)) c.toExpr rest := by
  have := Parses.paren (ts := c.pp ++ .rparen :: rest) (e := c.toExpr)
  rw [collectParen_bal c.pp rest c.pp_bal] at this
  simpa [paren] using this h.all

theorem operand_parse (c : Cond) (h : RoundTrip c) (p : Prop) [Decidable p] (rbp : Nat)
    (rest : List Token) (hfit : p → Sits rbp rest c) :
    Reads (if p then c.pp else paren c.pp) c.toExpr rbp rest := by
  split
  · next hp => exact h _ _ (hfit hp)
  · exact .nud (nud_paren c h rest)

theorem binary_case (a b : Cond) (sym : BoolSym) (k : Nat) (hk : (Token.op sym).bp = k)
    (hsym : sym = .and ∨ sym = .or) (ha : RoundTrip a) (hb : RoundTrip b)
    (rbp : Nat) (rest : List Token) (hfit : rbp < k ∧ ∀ t ∈ rest.head?, t.bp ≤ k) :
    Reads ((if a.prec ≥ k then a.pp else paren a.pp) ++ Token.op sym ::
      (if b.prec > k then b.pp else paren b.pp)) (.bin a.toExpr sym b.toExpr) rbp rest := by
  subst hk
  obtain ⟨hrbp, htail⟩ := hfit
  refine .bin (operand_parse a ha _ rbp _ fun ha _ =>
      ⟨by omega, fun t ht => by cases (by simpa using ht : Token.op sym = t); omega⟩)
    (operand_parse b hb _ _ rest fun hb _ => ⟨hb, fun t ht => by have := htail t ht; omega⟩) hrbp htail ?_
  rcases hsym with rfl | rfl <;> simp [ledCheck, ledCheckBool, Cond.toExpr_solvable]

theorem cond_roundTrip : ∀ c : Cond, RoundTrip c := by
  intro c
  induction c with
  | id i => exact fun _ _ _ => .nud .ident
  | cmp l op r ok =>
    intro rbp rest hsits
    obtain ⟨hrbp, htail⟩ := hsits (by decide : 90 < 95)
    have hbp : (Token.op op).bp = 90 := by
      obtain ⟨-, h1, h2⟩ := ok
      cases op <;> first | rfl | contradiction
    exact .bin (l.reads ..) (r.reads ..) (hbp ▸ hrbp) (hbp ▸ htail) ok.1
  | all i => exact fun _ _ _ => .nud (.matchAll rfl)
  | of i n => exact fun _ _ _ => .nud (.matchOf (s := i) (n := n) (by simp [parseOfArgs]))
  | not c ih =>
    intro rbp rest _
    have hop := operand_parse c ih (c.prec ≥ 95) 95 rest (fun (hc : c.prec ≥ 95) hlt => by omega)
      (.stop (by cases rest <;> simp [bp_le_95]))
    exact .nud (.not hop (Cond.toExpr_negatable c))
  | and a b iha ihb =>
    exact fun rbp rest hs => binary_case a b .and 70 rfl (.inl rfl) iha ihb rbp rest (hs (by decide : 70 < 95))
  | or a b iha ihb =>
    exact fun rbp rest hs => binary_case a b .or 80 rfl (.inr rfl) iha ihb rbp rest (hs (by decide : 80 < 95))
  | par c ih => exact fun _ rest _ => .nud (nud_paren c ih rest)

theorem parse_pp (c : Cond) : parse c.pp = .ok c.toExpr :=
  parse_iff.mpr (cond_roundTrip c).all

/-- A fuel budget for the printing of `c`. -/
def need : Cond → Nat
  | .id _ => 2
  | .cmp _ _ _ _ => 6
  | .all _ => 2
  | .of _ _ => 2
  | .not c => need c + 6
  | .and a b => need a + need b + 10
  | .or a b => need a + need b + 10
  | .par c => need c + 4

theorem need_le (c : Cond) : need c ≤ 10 * c.pp.length := by
  have operand : ∀ (p : Prop) [Decidable p] (x : Cond), x.pp.length ≤ (if p then x.pp else paren x.pp).length :=
    fun p _ x => operand_closed (P := fun ts => x.pp.length ≤ ts.length) p (Nat.le_refl _) (by simp [paren]; omega)
  induction c with
  | id | all | of => simp [need, Cond.pp]
  | cmp l op r _ => simp [need, Cond.pp]; omega
  | not c ih =>
    have := operand (c.prec ≥ 95) c
    simp only [need, Cond.pp, List.length_cons]; omega
  | and a b iha ihb =>
    have := operand (a.prec ≥ 70) a
    have := operand (b.prec > 70) b
    simp only [need, Cond.pp, List.length_cons, List.length_append]; omega
  | or a b iha ihb =>
    have := operand (a.prec ≥ 80) a
    have := operand (b.prec > 80) b
    simp only [need, Cond.pp, List.length_cons, List.length_append]; omega
  | par c ih => simp [need, Cond.pp, paren]; omega

end Tau
