import Tau.Safe
import Tau.Proofs.Solver
import Tau.Proofs.MatrixShape
/-
  `safe` trees never reach a panic site of the solver (`hitsG` of Tau/Safe.lean is false on them);
  `top_no_hits` is the statement about a rule.
-/
namespace Tau

/-- No identifier is defined: the `defd` of an identifier body (bodies are closed trees). -/
abbrev nod : Str → Bool := fun _ => false

theorem safeL_iff (defd : Str → Bool) (es : List Expr) :
    safeL defd es = true ↔ ∀ e ∈ es, safe defd e = true :=
  allL_iff rfl (fun _ _ => rfl) es

theorem safeL_map {defd : Str → Bool} {g : Expr → Expr} {es : List Expr} (h : safeL defd es = true)
    (hg : ∀ e ∈ es, safe defd e = true → safe defd (g e) = true) : safeL defd (es.map g) = true :=
  (safeL_iff _ _).mpr fun z hz => by
    obtain ⟨y, hy, rfl⟩ := List.mem_map.mp hz
    exact hg y hy ((safeL_iff _ es).mp h y hy)

theorem safe_group_iff {defd : Str → Bool} {op : BoolSym} {es : List Expr} :
    safe defd (.group op es) = true ↔ (op = .and ∨ op = .or) ∧ ∀ e ∈ es, safe defd e = true := by
  show ((op == .and || op == .or) && safeL defd es) = true ↔ _
  rw [Bool.and_eq_true, Bool.or_eq_true, beq_iff_eq, beq_iff_eq, safeL_iff]

theorem safe_bin {defd : Str → Bool} {op : BoolSym} (hop : op = .and ∨ op = .or) (l r : Expr) :
    safe defd (.bin l op r) = (safe defd l && safe defd r) := by
  rcases hop with rfl | rfl <;> rfl

theorem safe_cmp {defd : Str → Bool} (l : Expr) (op : BoolSym) (r : Expr) (h : op ≠ .and ∧ op ≠ .or) :
    safe defd (.bin l op r) = true := by
  cases op with
  | and => exact absurd rfl h.1
  | or => exact absurd rfl h.2
  | _ => rfl

theorem safe_bin_map {defd : Str → Bool} {l r l' r' : Expr} {op : BoolSym}
    (hl : safe defd l = true → safe defd l' = true) (hr : safe defd r = true → safe defd r' = true)
    (h : safe defd (.bin l op r) = true) : safe defd (.bin l' op r') = true := by
  by_cases hop : op = .and ∨ op = .or
  · rw [safe_bin hop, Bool.and_eq_true] at h ⊢
    exact ⟨hl h.1, hr h.2⟩
  · exact safe_cmp l' op r' (not_or.mp hop)

theorem safe_match (defd : Str → Bool) (k : MatchK) (x : Expr) :
    safe defd (.match k x) = (match x with | .group _ es => safeL defd es | x => safe defd x) := by
  cases x <;> rfl

theorem safe_of_match {defd : Str → Bool} {k : MatchK} {e : Expr} (h : safe defd (.match k e) = true)
    (hg : ∀ op es, e ≠ .group op es) : safe defd e = true := by
  rw [safe_match] at h
  split at h
  · exact absurd rfl (hg _ _)
  · exact h

theorem safe_match_of_safe (defd : Str → Bool) (k : MatchK) (b : Expr) (h : safe defd b = true) :
    safe defd (.match k b) = true := by
  rw [safe_match]
  split
  · exact (Bool.and_eq_true_iff.mp h).2
  · exact h

theorem safe_leaf {defd : Str → Bool} {e : Expr} (h : isLeafE e = true) : safe defd e = false := by
  cases e with
  | bool | cast | field | float | int | null => rfl
  | _ => cases h

/-- Documents whose `find` cannot panic (everything except the private matrix cache). -/
def NoFP (d : Doc) : Prop := ∀ k, d.findPanics k = false

theorem noFP_obj (kvs : List (Str × Value)) : NoFP (.obj kvs) := fun _ => rfl
theorem noFP_user (g : Str → Option Value) : NoFP (.user g) := fun _ => rfl
theorem noFP_pass (v : Option Value) : NoFP (.pass v) := fun _ => rfl

theorem operandHits_of (d : Doc) (e : Expr)
    (h : ∀ k, (e = .field k ∨ ∃ m, e = .cast k m) → d.findPanics k = false) : operandHits d e = false := by
  cases e with
  | field f => exact h f (.inl rfl)
  | cast f m =>
    cases m with
    | flt | int => exact h f (.inr ⟨_, rfl⟩)
    | _ => rfl
  | _ => rfl

theorem cmpHits_of (d : Doc) (l : Expr) (op : BoolSym) (r : Expr)
    (hl : ∀ k, (l = .field k ∨ ∃ m, l = .cast k m) → d.findPanics k = false)
    (hr : ∀ k, (r = .field k ∨ ∃ m, r = .cast k m) → d.findPanics k = false) :
    cmpHits d l op r = false := by
  unfold cmpHits
  split
  · rename_i lf rf
    simp only [hl lf (.inr ⟨_, rfl⟩), hr rf (.inr ⟨_, rfl⟩), Bool.false_or, Bool.and_false]
    cases d.find lf <;> rfl
  · exact hl _ (.inl rfl)
  · exact hl _ (.inl rfl)
  · simp only [operandHits_of d l hl, operandHits_of d r hr, Bool.false_or]
    cases operand d l <;> rfl

/-- Every loop of `hitsG` visits, then goes on or not (`if` in the counting loops): it does not hit if
    neither part does. -/
theorem seq_no_hits {a b c : Bool} (ha : a = false) (hb : b = false) : (a || (c && b)) = false := by
  rw [ha, hb, Bool.and_false]; rfl

theorem ite_no_hits {c : Prop} [Decidable c] {a b : Bool} (ha : a = false) (hb : b = false) :
    (if c then a else b) = false := by
  split <;> assumption

theorem anyUntil_false {α} {hit isT : α → Bool} {xs : List α} (h : ∀ x ∈ xs, hit x = false) :
    anyUntil hit isT xs = false := by
  induction xs with
  | nil => rfl
  | cons x xs ih => exact seq_no_hits (h x List.mem_cons_self) (ih fun y hy => h y (List.mem_cons_of_mem _ hy))

section
variable {E : RegexEngine} {K : IdentK} {H : HitK}

section
variable {d : Doc}

theorem hitsG_cmp {l r : Expr} {op : BoolSym} (h : op ≠ .and ∧ op ≠ .or) :
    hitsG E K H d (.bin l op r) = cmpHits d l op r := by
  cases op with
  | and => exact absurd rfl h.1
  | or => exact absurd rfl h.2
  | _ => rfl

/-- Excludes less than `matchOwnArm`: the arms for automaton and regex-set searches also only look
    the field up. -/
theorem hitsG_match {k : MatchK} {e : Expr} (hi : ∀ i, e ≠ .ident i)
    (hg : ∀ op es, e ≠ .group op es) (hm : ∀ cols rows, e ≠ .matrix cols rows) :
    hitsG E K H d (.match k e) = hitsG E K H d e := by
  cases k <;> cases e with
    | ident i => exact absurd rfl (hi i)
    | group op es => exact absurd rfl (hg op es)
    | matrix cols rows => exact absurd rfl (hm cols rows)
    | search s f c => cases s <;> rfl
    | _ => rfl

theorem hitsG_nested {f : Str} {x : Expr} (hx : nestedSpecial x = false) :
    hitsG E K H d (.nested f x) =
      (d.findPanics f ||
        (match d.find f with
         | some (.obj kvs) => hitsG E K H (.obj kvs) x
         | some (.arr a) =>
           anyUntil (fun kvs => hitsG E K H (.obj kvs) x) (fun kvs => solveG E K (.obj kvs) x == .t) (elemObjs a)
         | _ => false)) := by
  -- the last arm, whose side conditions are the two special bodies
  rw [hitsG]
  · rfl
  all_goals intros; subst x; cases hx

/-- The form of every `Nested` arm of `hitsG`. -/
theorem nestedArm_no_hits {f : Str} (hf : d.findPanics f = false)
    {A : List (Str × Value) → Bool} {B : List Value → Bool}
    (hA : ∀ kvs, A kvs = false) (hB : ∀ a, B a = false) :
    (d.findPanics f ||
      (match d.find f with
       | some (.obj kvs) => A kvs
       | some (.arr a) => B a
       | _ => false)) = false := by
  rw [hf, Bool.false_or]
  cases d.find f with
  | none => rfl
  | some v =>
    cases v with
    | obj kvs => exact hA kvs
    | arr a => exact hB a
    | _ => rfl

end

/-- What the induction over `safe` carries for a tree; `cell`: as a matrix cell of column `i`, on
    any document that can be asked for that column's key. -/
structure NoHit (E : RegexEngine) (K : IdentK) (H : HitK) (e : Expr) : Prop where
  doc : ∀ d, NoFP d → hitsG E K H d e = false
  cell : ∀ i d, cellKeyOk i e = true → d.findPanics (colKey i) = false → hitsG E K H d e = false

theorem safeRow_some {defd : Str → Bool} {e : Expr} {cells : List (Option Expr)} {i : Nat} :
    safeRow defd (some e :: cells) i = true ↔
      (cellKeyOk i e = true ∧ safe defd e = true) ∧ safeRow defd cells (i + 1) = true := by
  rw [← Bool.and_eq_true, ← Bool.and_eq_true]; rfl

theorem safeRows_iff {defd : Str → Bool} {w : Nat} (rows : List (List (Option Expr))) :
    safeRows defd w rows = true ↔ ∀ row ∈ rows, row.length ≤ w ∧ safeRow defd row 0 = true := by
  rw [allL_iff (p := fun row => decide (row.length ≤ w) && safeRow defd row 0) rfl (fun _ _ => rfl)]
  simp only [Bool.and_eq_true, decide_eq_true_eq]

theorem safe_matrix {defd : Str → Bool} {cols : List Str} {rows : List (List (Option Expr))} :
    safe defd (.matrix cols rows) = true ↔
      cols.length < 55296 ∧ ∀ row ∈ rows, row.length ≤ cols.length ∧ safeRow defd row 0 = true := by
  show (decide (cols.length < 55296) && safeRows defd cols.length rows) = true ↔ _
  rw [Bool.and_eq_true, decide_eq_true_eq, safeRows_iff]

section
variable {defd : Str → Bool} {d : Doc} {cols : List Str}

/-- `ih`: the induction hypothesis of `noHit_of_safe` at the cells of the row. -/
theorem row_no_hits (hd : NoFP d) (hcols : cols.length < 55296) (row : List (Option Expr))
    (ih : ∀ x, some x ∈ row → safe defd x = true → NoHit E K H x) :
    ∀ (i : Nat) (cache : List (Option Value)), safeRow defd row i = true → row.length + i ≤ cols.length →
      cache.length = cols.length → rowH E K H d cols row i cache = false := by
  induction row with
  | nil => exact fun _ _ _ _ _ => rfl
  | cons cell cells ihr =>
    replace ihr := ihr fun x hx => ih x (List.mem_cons_of_mem _ hx)
    intro i cache hs hl hcl
    replace hl : cells.length + (i + 1) ≤ cols.length := Nat.add_right_comm _ 1 i ▸ hl
    cases cell with
    | none => exact ihr (i + 1) cache hs hl hcl
    | some e =>
      obtain ⟨⟨hkey, hsafe⟩, hrest⟩ := safeRow_some.mp hs
      have hi : i < cols.length := by omega
      -- the cell on a cache of full length, then the rest of the row on the same cache
      have step : ∀ c : List (Option Value), c.length = cols.length →
          (hitsG E K H (.cache c) e || (solveG E K (.cache c) e == .t && rowH E K H d cols cells (i + 1) c)) = false :=
        fun c hc => seq_no_hits
          ((ih e List.mem_cons_self hsafe).cell i _ hkey
            (findPanics_cache_colKey c i (hc ▸ hi) (Nat.lt_trans hi hcols)))
          (ihr (i + 1) c hrest hl hc)
      show (if cache.length ≤ i then true else _) = false
      rw [if_neg (Nat.not_le.mpr (hcl ▸ hi))]
      split
      · exact step cache hcl
      · rw [List.getElem?_eq_getElem hi]
        refine Bool.or_eq_false_iff.mpr ⟨hd _, ?_⟩
        split
        · rfl
        · exact step _ (List.length_set.trans hcl)

/-- The two loops over the rows of a matrix ask of a row that it does not hit on a full cache. -/
theorem rows_no_hits {stop : Tri → Bool} (rows : List (List (Option Expr)))
    (h : ∀ row ∈ rows, ∀ c : List (Option Value), c.length = cols.length → rowH E K H d cols row 0 c = false) :
    ∀ cache : List (Option Value), cache.length = cols.length → (rowsH E K H d cols rows cache stop).1 = false := by
  induction rows with
  | nil => exact fun _ _ => rfl
  | cons row rows ih =>
    intro cache hcl
    show (if rowH E K H d cols row 0 cache = true then _ else if _ then _ else _ : Bool × _).1 = false
    rw [h row List.mem_cons_self cache hcl, if_neg Bool.false_ne_true]
    split
    · rfl
    · exact ih (fun r hr => h r (List.mem_cons_of_mem _ hr)) _ ((rowG_cache_length E K d cols row 0 cache).trans hcl)

theorem rowsOf_no_hits (c : Nat) (rows : List (List (Option Expr)))
    (h : ∀ row ∈ rows, ∀ c : List (Option Value), c.length = cols.length → rowH E K H d cols row 0 c = false) :
    ∀ (cache : List (Option Value)) (hits : Nat), cache.length = cols.length →
      rowsOfH E K H d cols rows cache c hits = false := by
  induction rows with
  | nil => exact fun _ _ _ => rfl
  | cons row rows ih =>
    intro cache hits hcl
    have hrec := fun n => ih (fun r hr => h r (List.mem_cons_of_mem _ hr)) _ n
      ((rowG_cache_length E K d cols row 0 cache).trans hcl)
    exact Bool.or_eq_false_iff.mpr
      ⟨h row List.mem_cons_self cache hcl, ite_no_hits (ite_no_hits rfl (hrec _)) (hrec _)⟩

theorem passRow_no_hits (v : Value) (row : List (Option Expr))
    (ih : ∀ x, some x ∈ row → safe defd x = true → NoHit E K H x) :
    ∀ i : Nat, safeRow defd row i = true → row.length + i ≤ cols.length → passRowH E K H v cols row i = false := by
  induction row with
  | nil => exact fun _ _ _ => rfl
  | cons cell cells ihr =>
    replace ihr := ihr fun x hx => ih x (List.mem_cons_of_mem _ hx)
    intro i hs hl
    replace hl : cells.length + (i + 1) ≤ cols.length := Nat.add_right_comm _ 1 i ▸ hl
    cases cell with
    | none => exact ihr (i + 1) hs hl
    | some e =>
      have hrec := ihr (i + 1) (safeRow_some.mp hs).2 hl
      cases v with
      | obj kvs =>
        exact seq_no_hits (Bool.or_eq_false_iff.mpr
          ⟨by rw [List.getElem?_eq_getElem (by omega : i < cols.length)]; rfl,
            (ih e List.mem_cons_self (safeRow_some.mp hs).1.2).doc _ (noFP_pass _)⟩) hrec
      | _ => exact hrec

theorem nestedAllMatrix_no_hits {a : List Value} (rows : List (List (Option Expr)))
    (h : ∀ row ∈ rows, ∀ v, passRowH E K H v cols row 0 = false) : nestedAllMatrixH E K H a cols rows = false := by
  induction rows with
  | nil => rfl
  | cons r rs ih =>
    exact seq_no_hits (List.any_eq_false.mpr fun v _ => Bool.eq_false_iff.mp (h r List.mem_cons_self v))
      (ih fun row hr => h row (List.mem_cons_of_mem _ hr))

/-- A safe matrix hits in none of the loops over its rows: the two on a document (from an empty cache),
    the one under a nested block. -/
theorem matrix_no_hits {rows : List (List (Option Expr))}
    (ih : ∀ row ∈ rows, ∀ x, some x ∈ row → safe defd x = true → NoHit E K H x)
    (hs : safe defd (.matrix cols rows) = true) :
    (∀ d, NoFP d → (∀ stop, (rowsH E K H d cols rows (emptyCache cols) stop).1 = false) ∧
      ∀ c, rowsOfH E K H d cols rows (emptyCache cols) c 0 = false) ∧
    ∀ a, nestedAllMatrixH E K H a cols rows = false := by
  obtain ⟨h55, hrows⟩ := safe_matrix.mp hs
  refine ⟨fun d hd => ?_, fun a => nestedAllMatrix_no_hits rows fun row hr v =>
    passRow_no_hits v row (ih row hr) 0 (hrows row hr).2 (hrows row hr).1⟩
  have hrow := fun row hr => (row_no_hits hd h55 row (ih row hr) 0 · (hrows row hr).2 (hrows row hr).1)
  exact ⟨fun _ => rows_no_hits rows hrow _ (List.length_map _),
    fun c => rowsOf_no_hits c rows hrow _ 0 (List.length_map _)⟩

end

theorem members_no_hits (d : Doc) (es : List Expr) (h : ∀ e ∈ es, hitsG E K H d e = false) :
    andH E K H d es = false ∧ orH E K H d es = false ∧ ∀ c count, ofH E K H d c count es = false := by
  induction es with
  | nil => exact ⟨rfl, rfl, fun _ _ => rfl⟩
  | cons x xs ih =>
    obtain ⟨ha, ho, hof⟩ := ih fun e he => h e (List.mem_cons_of_mem _ he)
    have hx := h x List.mem_cons_self
    exact ⟨seq_no_hits hx ha, seq_no_hits hx ho, fun c count => Bool.or_eq_false_iff.mpr
      ⟨hx, ite_no_hits (ite_no_hits rfl (ite_no_hits rfl (hof _ _))) (hof _ _)⟩⟩

theorem nestedAllOr_no_hits {objs : List (List (Str × Value))}
    (es : List Expr) (h : ∀ e ∈ es, ∀ kvs, hitsG E K H (.obj kvs) e = false) :
    nestedAllOrH E K H objs es = false := by
  induction es with
  | nil => rfl
  | cons x xs ih =>
    exact seq_no_hits (anyUntil_false fun kvs _ => h x List.mem_cons_self kvs)
      (ih fun e he => h e (List.mem_cons_of_mem _ he))

theorem cellKeyOk_bin {i : Nat} {l r : Expr} {op : BoolSym} (hk : cellKeyOk i (.bin l op r) = true) :
    cmpField (.bin l op r) = some (colKey i) ∧ op ≠ .and ∧ op ≠ .or := by
  cases l with
  | field k | cast k =>
    simp only [cellKeyOk, Bool.and_eq_true, beq_iff_eq, bne_iff_ne] at hk
    exact ⟨by rw [cmpField, if_pos hk.1.1.2, hk.1.1.1], hk.1.2, hk.2⟩
  | _ => cases hk

/-- A tree that is no matrix cell. -/
theorem NoHit.ofDoc {e : Expr} (hk : ∀ i, cellKeyOk i e = false) (h : ∀ d, NoFP d → hitsG E K H d e = false) :
    NoHit E K H e :=
  ⟨h, fun i _ hi => nomatch (hk i).symm.trans hi⟩

/-- A nested block asks the document for its own key only, which for a matrix cell is the column's. -/
theorem NoHit.ofNested {f : Str} {e : Expr}
    (h : ∀ d, d.findPanics f = false → hitsG E K H d (.nested f e) = false) : NoHit E K H (.nested f e) :=
  ⟨fun d hd => h d (hd f), fun i d hk hf => h d ((eq_of_beq hk : f = colKey i) ▸ hf)⟩

variable (E K H) (defd : Str → Bool)
  (hHi : ∀ i d, defd i = true → NoFP d → H.ident i d = false)
  (hHm : ∀ k i d, defd i = true → NoFP d → H.match k i d = false)
include hHi hHm

/-- Induction over the subtrees the solver can reach, which are those `safe` looks at. -/
theorem noHit_of_safe {e : Expr} : safe defd e = true → NoHit E K H e := by
  induction e using Expr.solver_induct with
  | group op es ih =>
    intro hs
    obtain ⟨hop, hes⟩ := safe_group_iff.mp hs
    refine .ofDoc (fun _ => rfl) fun d hd => ?_
    have hl := members_no_hits d es fun x hx => (ih x hx (hes x hx)).doc d hd
    rcases hop with rfl | rfl
    · exact hl.1
    · exact hl.2.1
  | bin l op r hop ihl ihr =>
    intro hs
    rw [safe_bin hop, Bool.and_eq_true] at hs
    refine ⟨fun d hd => ?_, fun i _ hk => (hop.elim (cellKeyOk_bin hk).2.1 (cellKeyOk_bin hk).2.2).elim⟩
    rcases hop with rfl | rfl <;> exact seq_no_hits ((ihl hs.1).doc d hd) ((ihr hs.2).doc d hd)
  | cmp l op r hop =>
    refine fun _ => ⟨fun d hd => ?_, fun i d hk hf => ?_⟩ <;> rw [hitsG_cmp hop]
    · exact cmpHits_of d l op r (fun k _ => hd k) (fun k _ => hd k)
    · -- the left operand's field is the column key, the right operand is a literal and has none
      obtain ⟨hlit, hl⟩ := cmpField_some (cellKeyOk_bin hk).1
      refine cmpHits_of d l op r (fun k h => ?_) fun k h => ?_
      · rcases hl with rfl | ⟨m, rfl⟩ <;> rcases h with h | ⟨_, h⟩ <;> cases h <;> exact hf
      · rcases h with rfl | ⟨_, rfl⟩ <;> cases hlit
  | ident i => exact fun hs => .ofDoc (fun _ => rfl) fun d hd => hHi i d hs hd
  | matchIdent k i => exact fun hs => .ofDoc (fun _ => rfl) fun d hd => by cases k <;> exact hHm _ i d hs hd
  | matchGroup k op es ih =>
    refine fun hs => .ofDoc (fun _ => rfl) fun d hd => ?_
    have hl := members_no_hits d es fun x hx => (ih x hx ((safeL_iff defd es).mp hs x hx)).doc d hd
    cases k
    · exact hl.1
    · exact hl.2.2 _ 0
  | matchMatrix k cols rows ih =>
    refine fun hs => .ofDoc (fun _ => rfl) fun d hd => ?_
    obtain ⟨h, hof⟩ := (matrix_no_hits ih hs).1 d hd
    cases k with
    | all => exact h _
    | of c => exact ite_no_hits (h _) (hof c)
  | matchFt k e hi hg hm ih =>
    refine fun hs => .ofDoc (fun _ => rfl) fun d hd => ?_
    rw [hitsG_match hi hg hm]
    exact (ih (safe_of_match hs hg)).doc d hd
  | matrix cols rows ih => exact fun hs => .ofDoc (fun _ => rfl) fun d hd => ((matrix_no_hits ih hs).1 d hd).1 _
  | negate e ih => exact fun hs => .ofDoc (fun _ => rfl) (ih hs).doc
  | nested f e hx ih =>
    intro hs
    have doc := fun kvs => (ih hs).doc _ (noFP_obj kvs)
    refine .ofNested fun d hf => ?_
    rw [hitsG_nested hx]
    exact nestedArm_no_hits hf doc fun _ => anyUntil_false fun kvs _ => doc kvs
  | nestedAllOr f es ih =>
    intro hs
    have hes := (safeL_iff defd es).mp hs
    have doc : ∀ x ∈ es, ∀ kvs, hitsG E K H (.obj kvs) x = false :=
      fun x hx kvs => (ih x hx (hes x hx)).doc _ (noFP_obj kvs)
    exact .ofNested fun d hf => nestedArm_no_hits hf
      (fun kvs => (members_no_hits _ es fun x hx => doc x hx kvs).1) fun _ => nestedAllOr_no_hits es doc
  | nestedAllMatrix f cols rows ih =>
    exact fun hs => .ofNested fun d hf => nestedArm_no_hits hf
      (fun kvs => ((matrix_no_hits ih hs).1 _ (noFP_obj kvs)).1 _) (matrix_no_hits ih hs).2
  | search s f c => exact fun _ => ⟨fun d hd => hd f, fun i d hk hf => (eq_of_beq hk : f = colKey i) ▸ hf⟩
  | lit e h => exact fun hs => nomatch (safe_leaf h).symm.trans hs

end

/-- **Safe trees never reach a panic site.** Part 1: on every document whose `find` cannot panic
    (mappings, arbitrary user documents); part 2: a matrix cell on the private cache.  The bound `n`
    on the size plays no part. -/
theorem safe_no_hits (E : RegexEngine) (K : IdentK) (H : HitK) (defd : Str → Bool)
    (hHi : ∀ i d, defd i = true → NoFP d → H.ident i d = false)
    (hHm : ∀ k i d, defd i = true → NoFP d → H.match k i d = false) :
    ∀ (n : Nat) (e : Expr), e.size ≤ n → safe defd e = true →
      (∀ d, NoFP d → hitsG E K H d e = false) ∧
      (∀ i (cache : List (Option Value)), cellKeyOk i e = true → i < cache.length → i < 55296 →
        hitsG E K H (.cache cache) e = false) :=
  fun _ _ _ hs => ⟨(noHit_of_safe E K H defd hHi hHm hs).doc, fun i cache hk hi h55 =>
    (noHit_of_safe E K H defd hHi hHm hs).cell i _ hk (findPanics_cache_colKey cache i hi h55)⟩

theorem closed_no_hits (E : RegexEngine) (d : Doc) (hd : NoFP d) (b : Expr)
    (h : safe nod b = true) : hitsClosed E d b = false :=
  (noHit_of_safe E closedK closedH _ (fun _ _ h => by cases h) (fun _ _ _ h => by cases h) h).doc d hd

/-- **A safe rule never panics in `matches`**: on a mapping or any user document, evaluation reaches
    no `unreachable!()`, no undefined identifier, no out-of-range access of the matrix cache. -/
theorem top_no_hits (E : RegexEngine) (ids : Ids) (d : Doc) (hd : NoFP d) (e : Expr)
    (hbodies : ∀ i b, lookupId ids i = some b → safe (fun _ => false) b = true)
    (he : safe (fun i => (lookupId ids i).isSome) e = true) : hitsTop E ids d e = false := by
  refine (noHit_of_safe E (topK E ids) (topH E ids) _ ?_ ?_ he).doc d hd
  · intro i d' hdef hd'
    obtain ⟨b, hl⟩ := Option.isSome_iff_exists.mp hdef
    simp only [topH, hl]
    exact closed_no_hits E d' hd' b (hbodies i b hl)
  · intro k i d' hdef hd'
    obtain ⟨b, hl⟩ := Option.isSome_iff_exists.mp hdef
    simp only [topH, hl]
    exact closed_no_hits E d' hd' (.match k b) (safe_match_of_safe _ k b (hbodies i b hl))

end Tau
