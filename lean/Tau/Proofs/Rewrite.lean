import Tau.Proofs.Sim
import Tau.Proofs.Basics
/-
  `rewrite` (optimiser.rs:453) is exact, given what the engine assumes of the regex crate when it
  strips a leading / trailing `.*` from an unanchored search.
-/
namespace Tau

/-- The assumption `rewrite` makes about the regex engine (an external crate): if the stripped
    pattern compiles, it matches exactly the strings the original matches (unanchored search). -/
def StripLaw (E : RegexEngine) : Prop :=
  ∀ p ci h, E.compiles (stripDotStar p) ci = true → E.isMatch (stripDotStar p) ci h = E.isMatch p ci h

theorem rewriteL_eq_map (E : RegexEngine) : ∀ es : List Expr, rewriteL E es = es.map (rewrite E)
  | [] => rfl
  | x :: xs => congrArg (rewrite E x :: ·) (rewriteL_eq_map E xs)

theorem any_strip (E : RegexEngine) (hL : StripLaw E) (ci : Bool) (h : Str) (ps : List Str)
    (hall : (ps.map stripDotStar).all (fun p => E.compiles p ci) = true) :
    (ps.map stripDotStar).any (fun p => E.isMatch p ci h) = ps.any (fun p => E.isMatch p ci h) := by
  induction ps with
  | nil => rfl
  | cons p ps ih =>
    simp only [List.map_cons, List.all_cons, Bool.and_eq_true] at hall
    simp only [List.map_cons, List.any_cons, hL p ci h hall.1, ih hall.2]

theorem count_strip (E : RegexEngine) (hL : StripLaw E) (ci : Bool) (h : Str) (ps : List Str)
    (hall : (ps.map stripDotStar).all (fun p => E.compiles p ci) = true) :
    setHits E (ps.map stripDotStar) ci h = setHits E ps ci h := by
  unfold setHits
  induction ps with
  | nil => rfl
  | cons p ps ih =>
    simp only [List.map_cons, List.all_cons, Bool.and_eq_true] at hall
    simp only [List.map_cons, List.countP_cons, hL p ci h hall.1, ih hall.2]

theorem searchStr_rewrite (E : RegexEngine) (hL : StripLaw E) (s : Search) (h : Str) :
    searchStr E (rewriteSearch E s) h = searchStr E s h := by
  cases s with
  | regex p ci => exact ite_elim (P := fun s' => searchStr E s' h = _) (hL p ci h) fun _ => rfl
  | regexSet ps ci => exact ite_elim (P := fun s' => searchStr E s' h = _) (any_strip E hL ci h ps) fun _ => rfl
  | _ => rfl

theorem solveSearch_rewrite (E : RegexEngine) (hL : StripLaw E) (d : Doc) (s : Search) (f : Str) (c : Bool) :
    solveSearch E d (rewriteSearch E s) f c = solveSearch E d s f c := by
  unfold solveSearch
  have : searchStr E (rewriteSearch E s) = searchStr E s := funext (searchStr_rewrite E hL s)
  rw [this]

theorem rewrite_leaf (E : RegexEngine) (x : Expr) :
    rewrite E x = x ∨ (isLeafE x = false ∧ isLeafE (rewrite E x) = false) := by
  cases x with
  | group | bin | «match» | negate | nested | search => exact .inr ⟨rfl, rfl⟩
  | _ => exact .inl rfl

theorem operand_rewrite (E : RegexEngine) (d : Doc) (x : Expr) : operand d (rewrite E x) = operand d x := by
  rcases rewrite_leaf E x with h | ⟨h, h'⟩
  · rw [h]
  · rw [operand_nonleaf d _ h, operand_nonleaf d _ h']

theorem solveCmp_rewrite (E : RegexEngine) (d : Doc) (l : Expr) (op : BoolSym) (r : Expr) :
    solveCmp d (rewrite E l) op (rewrite E r) = solveCmp d l op r := by
  rcases rewrite_leaf E l with hl | ⟨hl, hl'⟩
  · rw [hl]
    rcases rewrite_leaf E r with hr | ⟨hr, hr'⟩
    · rw [hr]
    · rw [solveCmp_nonleaf_right d l op _ hr, solveCmp_nonleaf_right d l op _ hr']
  · rw [solveCmp_nonleaf_left d _ op _ hl, solveCmp_nonleaf_left d _ op _ hl']

/-- Under a quantifier the set arm counts members, hence `count_strip`. -/
theorem match_set_rewrite (E : RegexEngine) (hL : StripLaw E) (K : IdentK) (d : Doc) (k : MatchK)
    (ps : List Str) (ci : Bool) (f : Str) (c : Bool) :
    solveG E K d (.match k (.search (rewriteSearch E (.regexSet ps ci)) f c)) =
      solveG E K d (.match k (.search (.regexSet ps ci) f c)) := by
  refine ite_elim (P := fun s => solveG E K d (.match k (.search s f c)) = _) (fun hall => ?_) fun _ => rfl
  have hS := solveSearch_rewrite E hL d (.regexSet ps ci) f c
  rw [rewriteSearch, if_pos hall] at hS
  have hc : ∀ x, setHits E (ps.map stripDotStar) ci x = setHits E ps ci x :=
    fun x => count_strip E hL ci x ps hall
  cases k <;> simp only [solveG, allSet, ofSet, List.length_map, hc, hS]

theorem matchOwnArm_rewrite (E : RegexEngine) (x : Expr) : matchOwnArm (rewrite E x) = matchOwnArm x := by
  cases x with
  | search s f c =>
    cases s with
    -- an `if` between two searches of the same kind
    | regex | regexSet => exact (apply_ite (fun s' => matchOwnArm (.search s' f c)) ..).trans (ite_self _)
    | _ => rfl
  | _ => rfl

theorem nestedSpecial_rewrite (E : RegexEngine) (x : Expr) : nestedSpecial (rewrite E x) = nestedSpecial x := by
  cases x with
  | «match» k y =>
    cases k with
    | all =>
      cases y with
      | group op es => cases op <;> rfl
      | _ => rfl
    | of _ => rfl
  | _ => rfl

abbrev RewriteRel (E : RegexEngine) (d₁ : Doc) (x : Expr) (d₁' : Doc) (x' : Expr) : Prop :=
  d₁ = d₁' ∧ rewrite E x = x'

theorem solveG_rewrite (E : RegexEngine) (hL : StripLaw E) (K : IdentK) (d : Doc) (e : Expr) :
    solveG E K d (rewrite E e) = solveG E K d e := by
  refine (solveG_sim .id (R := RewriteRel E) ?_ ⟨rfl, rfl⟩).symm
  intro d e d' e' h
  obtain ⟨h1, h2⟩ := h
  subst h1 h2
  have found : ∀ f, d.find f = (d.find f).map ValMap.id.val := fun f => by simp
  cases e with
  | group op es => exact .group none op _ (rewriteL_eq_map E es) fun _ _ => ⟨rfl, rfl⟩
  | bin l op r =>
    by_cases h : op = .and ∨ op = .or
    · exact .bin op h ⟨rfl, rfl⟩ ⟨rfl, rfl⟩
    · have hc := not_or.mp h
      exact .done (by rw [solveG_bin_cmp E K _ hc, ← solveCmp_rewrite E]; exact (solveG_bin_cmp E K _ hc).symm)
  | «match» k x =>
    cases h : matchOwnArm x with
    | false => exact .matchFt k h (matchOwnArm_rewrite E x ▸ h) ⟨rfl, rfl⟩
    | true =>
      cases x with
      | group op es => exact .group (some k) op _ (rewriteL_eq_map E es) fun _ _ => ⟨rfl, rfl⟩
      | search s f c =>
        cases s with
        | regexSet ps ci => exact .done (match_set_rewrite E hL K d k ps ci f c).symm
        | ac => exact .done rfl
        | _ => cases h
      | ident | matrix => exact .done rfl
      | _ => cases h
  | negate x => exact .negate ⟨rfl, rfl⟩
  | nested f x =>
    cases h : nestedSpecial x with
    | false => exact .nested h (nestedSpecial_rewrite E x ▸ h) (found f) fun _ => ⟨rfl, rfl⟩
    | true =>
      rcases nestedSpecial_cases x h with ⟨es, rfl⟩ | ⟨cols, rows, rfl⟩
      · exact .nestedAllOr _ (rewriteL_eq_map E es) (found f) fun _ _ _ => ⟨rfl, rfl⟩
      · exact .done rfl
  | search s f c => exact .done (solveSearch_rewrite E hL d s f c).symm
  | _ => exact .done rfl

/-- The size bound is not used: `solveG_rewrite`. -/
theorem rewrite_sound_aux (E : RegexEngine) (hL : StripLaw E) (K : IdentK) :
    ∀ (n : Nat) (e : Expr), e.size ≤ n → ∀ d, solveG E K d (rewrite E e) = solveG E K d e :=
  fun _ e _ d => solveG_rewrite E hL K d e

end Tau
