import Tau.Tokeniser
import Tau.Proofs.Basics
/-
  What one step of the tokeniser can return (`tokStep_cases`), and from it: every step consumes a
  character, the only errors are the tokeniser's two, and the fuel of `tokenise` never runs out;
  hence `tokenise` obeys the loop's equations without fuel or accumulator.
-/
namespace Tau

theorem f64parse_not_contains (s : Str) (h : s = []) : s.contains '.' = false := by subst h; rfl

theorem findKeyword_some {s : Str} {t : Token} {n : Nat} (h : findKeyword s = some (t, n)) :
    ∃ kw, (kw, t, n) ∈ keywords ∧ matchAhead s kw = true := by
  unfold findKeyword at h
  split at h
  · rename_i kw _ _ hf
    cases h
    exact ⟨kw, List.mem_of_find?_eq_some hf, by simpa using List.find?_some hf⟩
  · cases h

/-- The keyword table by words: the letters consumed, the delimiter looked at and left, the token. -/
def kwWords : List (Str × Char × Token) :=
  [ (['f', 'l', 't'], '(', .modifier .flt), (['i', 'n', 't'], '(', .modifier .int),
    (['s', 't', 'r', 'i', 'n', 'g'], '(', .modifier .str), (['s', 't', 'r'], '(', .modifier .str),
    (['a', 'n', 'd'], ' ', .op .and), (['o', 'r'], ' ', .op .or), (['n', 'o', 't'], ' ', .miscNot),
    (['n', 'o', 't'], '(', .modifier .not), (['a', 'l', 'l'], '(', .matchAll), (['o', 'f'], '(', .matchOf) ]

/-- `toList` of a string literal runs the UTF-8 decoder, which is dear to evaluate (dearest in the
    elaborator, hence `+kernel`): the literals of `keywords` are decoded here only, and every other
    fact about the table is checked on `kwWords`. -/
theorem keywords_eq : keywords = kwWords.map fun e => (e.1 ++ [e.2.1], e.2.2, e.1.length) := by
  decide +kernel

theorem keyword_split {k : Str × Token × Nat} (hk : k ∈ keywords) :
    ∃ w d, k.1 = w ++ [d] ∧ (d = ' ' ∨ d = '(') ∧ w ≠ [] ∧ (∀ c ∈ w, isAsciiAlpha c = true) ∧
      k.2.2 = w.length ∧ (d = ' ' → w = "and".toList ∨ w = "or".toList ∨ w = "not".toList) := by
  rw [keywords_eq] at hk
  obtain ⟨⟨w, d, t⟩, he, rfl⟩ := List.mem_map.mp hk
  have := (by decide +kernel : ∀ e ∈ kwWords, (e.2.1 = ' ' ∨ e.2.1 = '(') ∧ e.1 ≠ [] ∧ e.1.all isAsciiAlpha = true ∧
    (e.2.1 = ' ' → e.1 = "and".toList ∨ e.1 = "or".toList ∨ e.1 = "not".toList)) _ he
  exact ⟨w, d, rfl, this.1, this.2.1, List.all_eq_true.mp this.2.2.1, rfl, this.2.2.2⟩

theorem keywords_distinct : ∀ k ∈ keywords, ∀ k' ∈ keywords, k'.1 = k.1 → k' = k := by
  rw [keywords_eq]; decide +kernel

theorem span_takeWhile {α} (p : α → Bool) (a : List α) (b : α) (r : List α) (ha : ∀ c ∈ a, p c = true)
    (hb : p b = false) : (a ++ b :: r).takeWhile p = a ∧ (a ++ b :: r).dropWhile p = b :: r := by
  rw [List.takeWhile_append_of_pos ha, List.dropWhile_append_of_pos ha]
  simp [hb]

/-- A list is `p`-elements and then a non-`p` element in one way only. -/
theorem span_unique {α} {p : α → Bool} {a a' : List α} {b b' : α} {r r' : List α}
    (ha : ∀ c ∈ a, p c = true) (hb : p b = false) (ha' : ∀ c ∈ a', p c = true) (hb' : p b' = false)
    (h : a ++ b :: r = a' ++ b' :: r') : a = a' ∧ b = b' := by
  have s := span_takeWhile p a b r ha hb
  have s' := span_takeWhile p a' b' r' ha' hb'
  rw [h] at s
  exact ⟨s.1.symm.trans s'.1, (List.cons.inj (s.2.symm.trans s'.2)).1⟩

theorem identChar_of_alpha {c : Char} (h : isAsciiAlpha c = true) : isIdentChar c = true := by
  simp [isIdentChar, isAlphanumeric, h]

theorem delim_not_identChar {d : Char} (h : d = ' ' ∨ d = '(') : isIdentChar d = false := by
  rcases h with rfl | rfl <;> decide

/-- A keyword is letters and then a delimiter (`keyword_split`), so the look-ahead finds it on a
    word and its delimiter only if it is that word and that delimiter. -/
theorem matchAhead_word {k : Str × Token × Nat} (hk : k ∈ keywords) {w R : Str} {d : Char}
    (hw : ∀ c ∈ w, isIdentChar c = true) (hd : isIdentChar d = false)
    (h : matchAhead (w ++ d :: R) k.1 = true) : k.1 = w ++ [d] := by
  obtain ⟨w', d', hk', hd', -, hw', -⟩ := keyword_split hk
  obtain ⟨r, hr⟩ := List.isPrefixOf_iff_prefix.mp h
  rw [hk', List.append_assoc] at hr
  obtain ⟨rfl, rfl⟩ := span_unique (fun c hc => identChar_of_alpha (hw' c hc)) (delim_not_identChar hd') hw hd hr
  exact hk'

/-- Never `split` on `tokStep` as a whole, hypothesis or goal: one such `split` is dearer to check
    than this file.  The conditions are walked once, here. -/
theorem tokStep_cases {P : Except Err (Option Token × Str) → Prop} (c : Char) (cs : Str)
    (float : ∀ b, ((c :: cs).takeWhile isNumChar).contains '.' = true →
      F64.parse ((c :: cs).takeWhile isNumChar) = some b →
      P (.ok (some (.float b), (c :: cs).dropWhile isNumChar)))
    (int : ∀ i, parseI64 ((c :: cs).takeWhile isNumChar) = some i →
      P (.ok (some (.int i), (c :: cs).dropWhile isNumChar)))
    (keyword : ∀ t n, findKeyword (c :: cs) = some (t, n) → P (.ok (some t, (c :: cs).drop n)))
    (ident : (isAsciiAlpha c || c == '#') = true → findKeyword (c :: cs) = none →
      P (.ok (some (.ident ((c :: cs).takeWhile isIdentChar)), (c :: cs).dropWhile isIdentChar)))
    (blank : isTokWs c = true → P (.ok (none, cs)))
    (one : ∀ t, P (.ok (some t, cs)))
    (two : ∀ t r, cs = '=' :: r → P (.ok (some t, r)))
    (badNum : P (.error .tokInvalidNum)) (badChar : P (.error .tokInvalidChar)) :
    P (tokStep c cs) := by
  refine ite_elim (fun _ => ite_elim (fun hd => ?float) fun _ => ?int) fun _ =>
    ite_elim (fun h => ?word) fun _ => ite_elim blank fun _ =>
    ite_elim (fun _ => ?eq) fun _ => ite_elim (fun _ => ?lt) fun _ => ite_elim (fun _ => ?gt) fun _ =>
    ite_elim (fun _ => one _) fun _ => ite_elim (fun _ => one _) fun _ => ite_elim (fun _ => one _) fun _ => badChar
  case float => split; exact float _ hd ‹_›; exact badNum
  case int => split; exact int _ ‹_›; exact badNum
  case word => split; exact keyword _ _ ‹_›; exact ident h ‹_›
  case eq => split; exact two _ _ rfl; exact badChar
  case lt => split; exact two _ _ rfl; exact one _
  case gt => split; exact two _ _ rfl; exact one _

theorem tokStep_progress (c : Char) (cs : Str) (t : Option Token) (rest : Str)
    (h : tokStep c cs = .ok (t, rest)) : rest.length ≤ cs.length := by
  have span : ∀ p, (c :: cs).takeWhile p ≠ [] → ((c :: cs).dropWhile p).length ≤ cs.length := by
    intro p hne
    have := congrArg List.length (List.takeWhile_append_dropWhile (p := p) (l := c :: cs))
    have := List.length_pos_iff.mpr hne
    simp only [List.length_append, List.length_cons] at *; omega
  revert h
  refine tokStep_cases (P := fun x => x = .ok (t, rest) → _) c cs ?_ ?_ ?_ ?_ ?_ ?_ ?_ nofun nofun
  · rintro b hd - ⟨⟩
    exact span _ fun h => by rw [f64parse_not_contains _ h] at hd; cases hd
  · rintro i hi ⟨⟩
    exact span _ fun h => by rw [h] at hi; cases hi
  · rintro t n hk ⟨⟩
    obtain ⟨kw, hmem, -⟩ := findKeyword_some hk
    obtain ⟨w, -, -, -, hw, -, hn, -⟩ := keyword_split hmem
    have := List.length_pos_iff.mpr hw
    simp only [List.length_drop, List.length_cons, show n = w.length from hn]; omega
  · rintro hal - ⟨⟩
    have hc : isIdentChar c = true :=
      (Bool.or_eq_true ..).mp hal |>.elim identChar_of_alpha fun h => by cases eq_of_beq h; decide
    exact span _ (by simp [hc])
  · rintro - ⟨⟩; exact Nat.le_refl _
  · rintro t ⟨⟩; exact Nat.le_refl _
  · rintro t r rfl ⟨⟩; simp

theorem tokStep_error {c : Char} {cs : Str} {e : Err} (h : tokStep c cs = .error e) :
    e = .tokInvalidNum ∨ e = .tokInvalidChar := by
  revert h
  refine tokStep_cases (P := fun x => x = .error e → _) c cs ?_ ?_ ?_ ?_ ?_ ?_ ?_ ?_ ?_ <;> intros <;>
    simp_all

theorem tokLoop_error (fuel : Nat) (s : Str) (acc : List Token) (h : s.length < fuel) {e : Err}
    (he : tokLoop fuel s acc = .error e) : e = .tokInvalidNum ∨ e = .tokInvalidChar := by
  induction fuel generalizing s acc with
  | zero => omega
  | succ n ih =>
    cases s with
    | nil => cases he
    | cons c cs =>
      simp only [tokLoop] at he
      cases hstep : tokStep c cs with
      | error e' => rw [hstep] at he; cases he; exact tokStep_error hstep
      | ok r =>
        obtain ⟨t, rest⟩ := r
        have hp := tokStep_progress c cs t rest hstep
        rw [hstep] at he
        have hr : rest.length < n := by simp only [List.length_cons] at h; omega
        cases t <;> exact ih rest _ hr he

theorem tokLoop_no_panic (fuel : Nat) (s : Str) (acc : List Token) (h : s.length < fuel) :
    ∀ site, tokLoop fuel s acc ≠ .error (.panic site) := by
  intro site he
  rcases tokLoop_error fuel s acc h he with h | h <;> cases h

theorem tokenise_np (s : Str) : NP (tokenise s) :=
  tokLoop_no_panic (s.length + 1) s [] (by omega)

theorem tokenise_error {s : Str} {e : Err} (h : tokenise s = .error e) :
    e = .tokInvalidNum ∨ e = .tokInvalidChar :=
  tokLoop_error _ s [] (Nat.lt_succ_self _) h

theorem tokLoop_fuel : ∀ (f f' : Nat) (s : Str) (acc : List Token), s.length < f → s.length < f' →
    tokLoop f s acc = tokLoop f' s acc
  | 0, _, _, _, h, _ | _, 0, _, _, _, h => by omega
  | f + 1, f' + 1, [], _, _, _ => rfl
  | f + 1, f' + 1, c :: cs, acc, h, h' => by
    simp only [tokLoop]
    cases hstep : tokStep c cs with
    | error e => rfl
    | ok r =>
      obtain ⟨t, rest⟩ := r
      have := tokStep_progress c cs t rest hstep
      have hr : rest.length < f ∧ rest.length < f' := by simp only [List.length_cons] at h h'; omega
      cases t <;> exact tokLoop_fuel f f' _ _ hr.1 hr.2

theorem tokLoop_acc : ∀ (f : Nat) (s : Str) (acc : List Token),
    tokLoop f s acc = (tokLoop f s []).map (acc.reverse ++ ·)
  | 0, _, _ => rfl
  | f + 1, [], _ => by simp [tokLoop, Except.map]
  | f + 1, c :: cs, acc => by
    simp only [tokLoop]
    cases tokStep c cs with
    | error e => rfl
    | ok r =>
      obtain ⟨_ | t, rest⟩ := r <;> simp only []
      · exact tokLoop_acc f rest acc
      · rw [tokLoop_acc f rest (t :: acc), tokLoop_acc f rest [t]]
        cases tokLoop f rest [] <;> simp [Except.map]

theorem tokLoop_eq {fuel : Nat} {s : Str} {acc : List Token} (h : s.length < fuel) :
    tokLoop fuel s acc = (tokenise s).map (acc.reverse ++ ·) := by
  rw [tokLoop_acc, tokLoop_fuel fuel (s.length + 1) s [] h (Nat.lt_succ_self _)]; rfl

theorem tokenise_skip {c : Char} {cs rest : Str} (h : tokStep c cs = .ok (none, rest)) :
    tokenise (c :: cs) = tokenise rest := by
  have := tokStep_progress c cs _ _ h
  rw [tokenise, tokLoop, h]; simp only []
  rw [tokLoop_eq (by simp only [List.length_cons]; omega)]
  cases tokenise rest <;> simp [Except.map]

theorem tokenise_tok {c : Char} {cs rest : Str} {t : Token} (h : tokStep c cs = .ok (some t, rest)) :
    tokenise (c :: cs) = (tokenise rest).map (t :: ·) := by
  have := tokStep_progress c cs _ _ h
  rw [tokenise, tokLoop, h]; simp only []
  rw [tokLoop_eq (by simp only [List.length_cons]; omega)]
  rfl

/-- `.`, `-` and the digits all lie below `A`, where the letters start. -/
theorem alpha_not_numStart {c : Char} (ha : isAsciiAlpha c = true) :
    (c == '.' || c == '-' || isAsciiDigit c) = false := by
  simp only [isAsciiAlpha, isAsciiLower, isAsciiUpper, Bool.or_eq_true, Bool.and_eq_true, decide_eq_true_eq] at ha
  simp only [isAsciiDigit, Bool.or_eq_false_iff, Bool.and_eq_false_imp, beq_eq_false_iff_ne, ne_eq, decide_eq_true_eq, decide_eq_false_iff_not, Char.not_le]
  have h1 : 'A' ≤ c := by
    rcases ha with ⟨h, _⟩ | ⟨h, _⟩
    · exact Char.le_def.mpr (UInt32.le_trans (by decide) (Char.le_def.mp h))
    · exact h
  refine ⟨⟨?_, ?_⟩, fun _ => Char.lt_def.mpr (UInt32.lt_of_lt_of_le (by decide) (Char.le_def.mp h1))⟩ <;>
    (rintro rfl; exact absurd h1 (by decide))

/-- `tokStep_cases` cannot give this: its premises do not record that the number guard failed. -/
theorem tokStep_word {c : Char} {cs : Str} (ha : isAsciiAlpha c = true) : tokStep c cs =
    match findKeyword (c :: cs) with
    | some (t, n) => .ok (some t, (c :: cs).drop n)
    | none => .ok (some (.ident ((c :: cs).takeWhile isIdentChar)), (c :: cs).dropWhile isIdentChar) :=
  (if_neg (by rw [alpha_not_numStart ha]; nofun)).trans (if_pos (by rw [ha]; rfl))

/-- On text that starts with a word of the table and its delimiter the look-ahead finds that
    entry: another one found would be the same word and delimiter (`matchAhead_word`). -/
theorem tokStep_keyword {c d : Char} {cs : Str} {t : Token} (he : (c :: cs, d, t) ∈ kwWords) (R : Str) :
    tokStep c (cs ++ d :: R) = .ok (some t, d :: R) := by
  have hk : (c :: cs ++ [d], t, cs.length + 1) ∈ keywords := by
    rw [keywords_eq]; exact List.mem_map_of_mem he
  obtain ⟨w, d', hw, hd, -, hal, -⟩ := keyword_split hk
  obtain ⟨rfl, rfl⟩ : c :: cs = w ∧ d = d' := by simpa using List.append_inj' hw rfl
  have hfind : findKeyword (c :: (cs ++ d :: R)) = some (t, cs.length + 1) := by
    unfold findKeyword
    rw [find?_unique hk (by simp [matchAhead])]
    exact fun k' hk' hp => keywords_distinct _ hk _ hk'
      (matchAhead_word hk' (fun x hx => identChar_of_alpha (hal x hx)) (delim_not_identChar hd) hp)
  rw [tokStep_word (hal c (List.mem_cons_self ..)), hfind]
  simp

end Tau
