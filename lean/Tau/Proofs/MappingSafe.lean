import Tau.Proofs.Safe
import Tau.Proofs.MappingBuilt
/-
  Everything `parse_mapping` builds is a safe closed tree: identifier bodies never contain
  identifiers, literals in predicate position, or groups with a non-boolean symbol.
  One induction over the grammar of built trees (Tau.Proofs.MappingBuilt).
-/
namespace Tau

def SafeAll (es : List Expr) : Prop := ∀ e ∈ es, safe nod e = true

theorem safe_wrapNot {misc : Option ModSym} {x : Expr} (h : safe nod x = true) : safe nod (wrapNot misc x) = true :=
  wrapNot_ind (P := (safe nod · = true)) misc x h h

theorem searchOfPattern_safe (ci : Bool) (p : Pattern) (s : Search) (f : Str) (c : Bool)
    (_h : searchOfPattern ci p = some s) : safe nod (.search s f c) = true := rfl

theorem shapeGroup_safe {e g : Expr} {gs : List Expr} {multiple : Bool} (h : SafeAll (g :: gs)) :
    safe nod (shapeGroup e g gs multiple) = true := by
  have hg : safe nod g = true := h g List.mem_cons_self
  have hgrp : safe nod (.group .or (g :: gs)) = true := safe_group_iff.mpr ⟨.inr rfl, h⟩
  exact shapeGroup_ind (P := fun x => safe nod x = true) e g gs multiple hg
    (fun k => safe_match_of_safe _ k g hg) (fun k _ => safe_match_of_safe _ k _ hgrp) hgrp

theorem built_safe {L : Expr → Prop} : (∀ x, BuiltM L x → safe nod x = true) ∧
    (∀ x, BuiltE L x → safe nod x = true) ∧ (∀ x, BuiltB L x → safe nod x = true) :=
  Built.ind (fun _ _ hop => safe_cmp _ _ _ hop) rfl (fun _ h => h) (fun _ h => safe_wrapNot h)
    (fun _ h => safe_wrapNot (shapeGroup_safe h)) (fun _ h => h) fun _ h => safe_group_iff.mpr ⟨.inl rfl, h⟩

theorem BuiltI.safe {L x} (h : BuiltI L x) : safe nod x = true := by
  cases h with
  | body h => exact built_safe.2.2 x h
  | or _ h => exact safe_group_iff.mpr ⟨.inr rfl, fun x hx => built_safe.2.2 x (h x hx)⟩

/-! `safe` asks nothing of the key expression, so `parseVal` and `parseMembers` are covered under any. -/

theorem pair_safe (E : RegexEngine) (ic : Bool) : ∀ (p : Yaml × Yaml) (x : Expr),
    parsePair E ic p = .ok x → safe nod x = true := fun p _ h =>
  built_safe.2.1 _ ((pair_post E ic (L := fun _ => True) (fun _ _ => trivial) p).ok h)

theorem val_safe (E : RegexEngine) (ic : Bool) (e : Expr) (f : Str) (misc : Option ModSym) :
    ∀ (v : Yaml) (x : Expr), parseVal E ic e f misc v = .ok x → safe nod x = true := fun v _ h =>
  built_safe.2.1 _ (.of ((val_post E ic (L := fun _ => True) (fun _ _ => trivial) e f misc v (fun _ => trivial) trivial).ok h))

theorem members_safe (E : RegexEngine) (ic : Bool) (f : Str) (misc : Option ModSym) (lhs : Expr) :
    ∀ (vs : List Yaml) (st st' : SeqSt), parseMembers E ic f misc lhs vs st = .ok st' →
      SafeAll st.rest → SafeAll st'.rest := by
  intro vs st st' h hs
  exact (members_post E ic (L := fun _ => True) (fun _ _ => trivial) f misc lhs trivial
    built_safe.1 vs st hs).ok h

theorem parseMapping_safe (E : RegexEngine) (ic : Bool) (kvs : List (Yaml × Yaml)) (e : Expr)
    (h : parseMapping E ic kvs = .ok e) : safe nod e = true :=
  built_safe.2.2 e ((parseMapping_post E ic (fun _ => id) kvs).ok h)

theorem parseIdentifier_safe (E : RegexEngine) (ic : Bool) (y : Yaml) (e : Expr)
    (h : parseIdentifier E ic y = .ok e) : safe nod e = true :=
  ((parseIdentifier_post E ic (fun _ => id) y).ok h).safe

end Tau
