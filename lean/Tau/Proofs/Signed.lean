import Tau.Proofs.Sim
import Tau.Proofs.Basics
/-
  Signedness independence.  The adapters hand a non-negative integer over as `Value::UInt` (YAML,
  JSON, u8 … u64) or as `Value::Int` (i8 … i64, isize), depending on the Rust type that held it.
  `normV` rewrites every `UInt n` with n ≤ i64::MAX into `Int n`, at every depth; `normDoc` does it
  to whatever a document answers.  No expression can tell a document from its normal form.
-/
namespace Tau

mutual
def normV : Value → Value
  | .uint n => if (n : Int) ≤ i64Max then .int n else .uint n
  | .arr xs => .arr (normVs xs)
  | .obj kvs => .obj (normKvs kvs)
  | .null => .null
  | .bool b => .bool b
  | .flt b s => .flt b s
  | .int i => .int i
  | .str s => .str s
def normVs : List Value → List Value
  | [] => []
  | v :: vs => normV v :: normVs vs
def normKvs : List (Str × Value) → List (Str × Value)
  | [] => []
  | (k, v) :: rest => (k, normV v) :: normKvs rest
end

def normCache (c : List (Option Value)) : List (Option Value) := c.map (fun o => o.map normV)

def normDoc : Doc → Doc
  | .obj kvs => .obj (normKvs kvs)
  | .user f => .user (fun k => (f k).map normV)
  | .cache cells => .cache (normCache cells)
  | .pass v => .pass (v.map normV)

theorem normV_uint (n : Nat) :
    normV (.uint n) = if (n : Int) ≤ i64Max then .int n else .uint n := by rfl

theorem normVs_eq_map : ∀ xs : List Value, normVs xs = xs.map normV
  | [] => rfl
  | x :: xs => congrArg (normV x :: ·) (normVs_eq_map xs)

/-- `same` is also the case of an unsigned number above `i64::MAX`: what separates it from a small
    one is first composed with a map that does not (`operand_norm`: `Except.map normO`). -/
theorem normV_ind {P : Value → Value → Prop} (small : ∀ n : Nat, (n : Int) ≤ i64Max → P (.uint n) (.int n))
    (arr : ∀ a, P (.arr a) (.arr (a.map normV))) (obj : ∀ k, P (.obj k) (.obj (normKvs k)))
    (same : ∀ v, arrOf v = none → objOf v = none → P v v) : ∀ v, P v (normV v)
  | .uint n => ite_elim (P := P (.uint n)) (small n) fun _ => same _ rfl rfl
  | .arr a => show P _ (.arr (normVs a)) from normVs_eq_map a ▸ arr a
  | .obj k => obj k
  | .null | .bool _ | .flt _ _ | .int _ | .str _ => same _ rfl rfl

theorem normV_elim {α} (f : Value → α) (hu : ∀ n : Nat, (n : Int) ≤ i64Max → f (.int n) = f (.uint n))
    (ha : ∀ a, f (.arr (a.map normV)) = f (.arr a)) (hk : ∀ k, f (.obj (normKvs k)) = f (.obj k)) :
    ∀ v, f (normV v) = f v :=
  normV_ind (P := fun v w => f w = f v) hu ha hk fun _ _ _ => rfl

theorem getKey_norm (kvs : List (Str × Value)) (k : Str) :
    getKey (normKvs kvs) k = (getKey kvs k).map normV := by
  induction kvs with
  | nil => rfl
  | cons x xs ih =>
    show ite _ _ _ = Option.map normV (ite _ _ _)
    split
    · rfl
    · exact ih

theorem findStep_norm (kvs : List (Str × Value)) (seg : Str) :
    findStep (normKvs kvs) seg = (findStep kvs seg).map normV := by
  unfold findStep
  cases segIndex seg with
  | none => exact getKey_norm kvs seg
  | some p =>
    obtain ⟨name, _ | i⟩ := p
    · rfl
    · dsimp only
      rw [getKey_norm]
      cases getKey kvs name with
      | none => rfl
      | some v =>
        cases v with
        | uint n => rw [Option.map_some, normV_uint]; by_cases h : (n : Int) ≤ i64Max <;> simp [h]
        | arr a => exact (congrArg (·[i]?) (normVs_eq_map a)).trans (List.getElem?_map ..)
        | _ => rfl

theorem findSegs_norm : ∀ (segs : List Str) (v : Value),
    findSegs (normV v) segs = (findSegs v segs).map normV
  | [], v => by rw [findSegs, findSegs]; rfl
  | seg :: rest, v => by
    cases v with
    | uint n => exact ite_elim (P := fun w => findSegs w (seg :: rest) = none) (fun _ => rfl) fun _ => rfl
    | obj kvs =>
      rw [show normV (.obj kvs) = .obj (normKvs kvs) from rfl, findSegs, findSegs, findStep_norm]
      cases findStep kvs seg with
      | none => rfl
      | some w => exact findSegs_norm rest w
    | _ => rfl

theorem objFind_norm (kvs : List (Str × Value)) (key : Str) :
    objFind (normKvs kvs) key = (objFind kvs key).map normV :=
  findSegs_norm (splitOn '.' key) (.obj kvs)

theorem intToStr_ofNat (n : Nat) : intToStr (n : Int) = natToStr n := by
  unfold intToStr natToStr
  rfl

/-- A small number reads the same signed or unsigned; every text a predicate sees goes through here. -/
theorem scalarText_small (n : Nat) : scalarText (.int n) = scalarText (.uint n) :=
  congrArg some (intToStr_ofNat n)

theorem scalarText_norm (v : Value) : scalarText (normV v) = scalarText v :=
  normV_elim _ (fun n _ => scalarText_small n) (fun _ => rfl) (fun _ => rfl) v

theorem valueToString_norm (v : Value) : valueToString (normV v) = valueToString v :=
  normV_elim valueToString (fun n _ => scalarText_small n) (fun _ => rfl) (fun _ => rfl) v

theorem elemText_norm (c : Bool) (v : Value) : elemText c (normV v) = elemText c v :=
  normV_elim _ (fun n _ => congrArg (if c then · else none) (scalarText_small n)) (fun _ => rfl) (fun _ => rfl) v

theorem onFieldValue_norm (c : Bool) (p : Str → Bool) (v : Value) :
    onFieldValue c p (normV v) = onFieldValue c p v := by
  refine normV_elim _ (fun n _ => ?_) (fun a => ?_) (fun _ => rfl) v
  · show (if c then _ else none) = _
    rw [intToStr_ofNat]; rfl
  · exact congrArg some (List.any_map.trans (List.any_congr rfl fun v => by rw [Function.comp, elemText_norm]))

/-- `normMap.cache` is `normCache` and `normMap.kvs` is `normKvs`, by definition. -/
def normMap : ValMap where
  val := normV
  kvs := normKvs
  obj := normV_ind (P := fun v w => objOf w = (objOf v).map normKvs)
    (fun _ _ => rfl) (fun _ => rfl) (fun _ => rfl) fun _ _ h => by rw [h]; rfl
  arr := normV_ind (P := fun v w => arrOf w = (arrOf v).map (List.map normV))
    (fun _ _ => rfl) (fun _ => rfl) (fun _ => rfl) fun _ h _ => by rw [h]; rfl
  find := objFind_norm
  field := onFieldValue_norm

theorem find_norm (d : Doc) (k : Str) : (normDoc d).find k = (d.find k).map normV := by
  cases d with
  | obj kvs => exact objFind_norm kvs k
  | user f => rfl
  | cache cells =>
    cases k with
    | nil => rfl
    | cons c rest => exact normMap.cache_get cells c.toNat
  | pass v => rfl

/-- `normV` as `operand` sees it: `.uint n` becomes `.u n`, `.int n` becomes `.i n`, and each cast
    sends both to the same number. -/
def normO : Operand → Operand
  | .u n => if (n : Int) ≤ i64Max then .i n else .u n
  | .b x => .b x
  | .f x => .f x
  | .i x => .i x

/-- What `normO` does: nothing, or it makes a small `.u n` the `.i n`. -/
theorem normO_cases (x : Operand) : normO x = x ∨ ∃ n : Nat, x = .u n ∧ normO x = .i n := by
  cases x with
  | u n => exact if h : (n : Int) ≤ i64Max then .inr ⟨n, rfl, if_pos h⟩ else .inl (if_neg h)
  | _ => exact .inl rfl

theorem toInt_normO (x : Operand) : (normO x).toInt? = x.toInt? := by
  rcases normO_cases x with h | ⟨n, rfl, h⟩ <;> rw [h] <;> rfl

/-- The table compares `.i n` and `.u n` by value: one operand at a time. -/
theorem compareOp_normO (x y : Operand) (op : BoolSym) :
    compareOp (normO x) op (normO y) = compareOp x op y := by
  have left : ∀ y, compareOp (normO x) op y = compareOp x op y := fun y => by
    rcases normO_cases x with h | ⟨n, rfl, h⟩ <;> rw [h]
    cases y <;> rfl
  have right : compareOp x op (normO y) = compareOp x op y := by
    rcases normO_cases y with h | ⟨n, rfl, h⟩ <;> rw [h]
    cases x <;> rfl
  rw [left, right]

/-- `normV_elim` for what a document finds at `f`; a function of the document that reads it at `f`
    only is `fun o => … (.pass o) …`. -/
theorem find_norm_elim {α} (g : Option Value → α) (d : Doc) (f : Str)
    (hu : ∀ n : Nat, (n : Int) ≤ i64Max → g (some (.int n)) = g (some (.uint n)))
    (ha : ∀ a, g (some (.arr (a.map normV))) = g (some (.arr a)))
    (hk : ∀ k, g (some (.obj (normKvs k))) = g (some (.obj k))) :
    g ((normDoc d).find f) = g (d.find f) := by
  rw [find_norm]
  cases d.find f with
  | none => rfl
  | some v => exact normV_elim (fun v => g (some v)) hu ha hk v

/-- Up to `normO` the extraction is a function `normV_elim` applies to: a small `.uint n` and
    `.int n` give `.u n` and `.i n` (a field), both `.i n` (`int(…)`), the same float (`flt(…)`). -/
theorem operand_norm (d : Doc) (e : Expr) :
    (operand (normDoc d) e).map normO = (operand d e).map normO := by
  cases e with
  | field f =>
    exact find_norm_elim (fun o => (operand (.pass o) (.field f)).map normO) d f
      (fun _ h => congrArg Except.ok (if_pos h).symm) (fun _ => rfl) (fun _ => rfl)
  | cast f m =>
    cases m with
    | int =>
      exact find_norm_elim (fun o => (operand (.pass o) (.cast f .int)).map normO) d f
        (fun _ h => congrArg (Except.map normO) (if_pos h).symm) (fun _ => rfl) (fun _ => rfl)
    | flt =>
      exact find_norm_elim (fun o => (operand (.pass o) (.cast f .flt)).map normO) d f
        (fun _ _ => rfl) (fun _ => rfl) (fun _ => rfl)
    | _ => rfl
  | _ => rfl

/-- The last arm of `solveCmp`, as a function of the two extractions. -/
def cmpArm (op : BoolSym) (X Y : Except Tri Operand) : Tri :=
  match X with
  | .error res => res
  | .ok x => match Y with | .error res => res | .ok y => Tri.ofBool (compareOp x op y)

theorem cmpArm_normO (op : BoolSym) (X Y : Except Tri Operand) :
    cmpArm op (X.map normO) (Y.map normO) = cmpArm op X Y := by
  cases X <;> cases Y <;> first | rfl | exact congrArg Tri.ofBool (compareOp_normO _ _ op)

theorem solveCmp_norm (d : Doc) (l : Expr) (op : BoolSym) (r : Expr) :
    solveCmp (normDoc d) l op r = solveCmp d l op r := by
  unfold solveCmp
  split
  · rename_i lf rf
    simp only [find_norm]
    cases d.find lf <;> cases d.find rf <;> simp only [Option.map_some, Option.map_none, valueToString_norm]
  · rename_i lf b
    exact find_norm_elim (fun o => solveCmp (.pass o) (.field lf) .eq (.bool b)) d lf
      (fun _ _ => rfl) (fun _ => rfl) (fun _ => rfl)
  · rename_i lf
    exact find_norm_elim (fun o => solveCmp (.pass o) (.field lf) .eq .null) d lf
      (fun _ _ => rfl) (fun _ => rfl) (fun _ => rfl)
  · show cmpArm op _ _ = cmpArm op _ _
    rw [← cmpArm_normO, operand_norm, operand_norm, cmpArm_normO]

abbrev NormRel (d₁ : Doc) (x : Expr) (d₁' : Doc) (x' : Expr) : Prop := d₁' = normDoc d₁ ∧ x = x'

theorem solveG_normDoc (E : RegexEngine) (K : IdentK)
    (hKi : ∀ i d, K.ident i (normDoc d) = K.ident i d)
    (hKm : ∀ k i d, K.match k i (normDoc d) = K.match k i d) (d : Doc) (e : Expr) :
    solveG E K (normDoc d) e = solveG E K d e := by
  refine (solveG_sim normMap (R := NormRel) ?_ ⟨rfl, rfl⟩).symm
  intro d e d₁ e' h
  obtain ⟨h1, h2⟩ := h
  subst h1 h2
  have found := find_norm d
  have cells : ∀ e : Expr, (∀ c, NormRel (.cache c) e (.cache (normMap.cache c)) e) ∧
      ∀ o, NormRel (.pass o) e (.pass (o.map normMap.val)) e :=
    fun _ => ⟨fun _ => ⟨rfl, rfl⟩, fun _ => ⟨rfl, rfl⟩⟩
  cases e with
  | group op es => exact .group none op id (List.map_id _).symm fun _ _ => ⟨rfl, rfl⟩
  | bin l op r =>
    by_cases h : op = .and ∨ op = .or
    · exact .bin op h ⟨rfl, rfl⟩ ⟨rfl, rfl⟩
    · have hc := not_or.mp h
      exact .done (by rw [solveG_bin_cmp E K _ hc, solveG_bin_cmp E K _ hc, solveCmp_norm])
  | ident i => exact .done (hKi i d).symm
  | «match» k x =>
    cases x with
    | ident i => exact .done (by cases k <;> exact (hKm _ i d).symm)
    | group op es => exact .group (some k) op id (List.map_id _).symm fun _ _ => ⟨rfl, rfl⟩
    | search s f c => exact .search (some k) s c (found f)
    | matrix cols rows => exact .matrix (some k) (fun col _ => found col) fun _ _ x _ => (cells x).1
    | _ => exact .matchFt k rfl rfl ⟨rfl, rfl⟩
  | matrix cols rows => exact .matrix none (fun col _ => found col) fun _ _ x _ => (cells x).1
  | negate x => exact .negate ⟨rfl, rfl⟩
  | nested f x =>
    cases h : nestedSpecial x with
    | false => exact .nested h h (found f) fun _ => ⟨rfl, rfl⟩
    | true =>
      rcases nestedSpecial_cases x h with ⟨es, rfl⟩ | ⟨cols, rows, rfl⟩
      · exact .nestedAllOr id (List.map_id _).symm (found f) fun _ _ _ => ⟨rfl, rfl⟩
      · exact .nestedAllMatrix (found f) fun _ _ x _ => cells x
  | search s f c => exact .search none s c (found f)
  | _ => exact .done rfl

/-- The bound `n` is not used: `solveG_normDoc`. -/
def InvBelow (E : RegexEngine) (K : IdentK) (n : Nat) : Prop :=
  ∀ (e : Expr), e.size ≤ n → ∀ d : Doc, solveG E K (normDoc d) e = solveG E K d e

theorem norm_invariant (E : RegexEngine) (K : IdentK)
    (hKi : ∀ i d, K.ident i (normDoc d) = K.ident i d)
    (hKm : ∀ k i d, K.match k i (normDoc d) = K.match k i d) :
    ∀ (n : Nat), InvBelow E K n :=
  fun _ e _ d => solveG_normDoc E K hKi hKm d e

theorem closed_norm (E : RegexEngine) (d : Doc) (e : Expr) :
    solveClosed E (normDoc d) e = solveClosed E d e :=
  solveG_normDoc E closedK (fun _ _ => rfl) (fun _ _ _ => rfl) d e

theorem top_norm (E : RegexEngine) (ids : Ids) (d : Doc) (e : Expr) :
    solveTop E ids (normDoc d) e = solveTop E ids d e := by
  have h := fun d => topK_eq (ids := ids) (fun _ b _ => closed_norm E d b) fun k _ b _ => closed_norm E d (.match k b)
  exact solveG_normDoc E (topK E ids) (fun i d => (h d).1 i) (fun k i d => (h d).2 k i) d e

end Tau
