import Tau.Proofs.Shake1Exact
/-
  `xOK`: what `e1OK` (the class of shake_1) asks beyond `shakeOK`, in a form shake_0 preserves
  (`shake0_xOK`; `topN` is the part of it about nested mappings on top); `e1OK_of` puts the two together.
  Only `hasTopNested_topN` and `e1OK_of` need Shake1Exact.
-/
namespace Tau

mutual
/-- Could shake_0 leave a nested mapping at the top of (a group made from) this operand?
    `hasTopNested`, read through and/or chains as well. -/
def topN : Expr → Bool
  | .nested _ _ => true
  | .group _ es => topNL es
  | .bin l .and r => topN l || topN r
  | .bin l .or r => topN l || topN r
  | _ => false
def topNL : List Expr → Bool
  | [] => false
  | e :: es => topN e || topNL es
end

mutual
/-- The side conditions of `e1OK` that are not already in `shakeOK`, in a form shake_0 preserves:
    no nested mapping among the operands of an `and` (chain or group), no nested mapping directly
    on an all()-list, no empty automaton / regex set. -/
def xOK : Expr → Bool
  | .group .and es => xOKL es && !topNL es
  | .group _ es => xOKL es
  | .bin l .and r => xOK l && xOK r && !topN l && !topN r
  | .bin l _ r => xOK l && xOK r
  | .match _ x => xOK x
  | .negate x => xOK x
  | .nested _ x => !nestedSpecial x && xOK x
  | .search (.ac ctx _) _ _ => !ctx.isEmpty
  | .search (.regexSet ps _) _ _ => !ps.isEmpty
  | _ => true
def xOKL : List Expr → Bool
  | [] => true
  | e :: es => xOK e && xOKL es
end

theorem topNL_append (a b : List Expr) : topNL (a ++ b) = (topNL a || topNL b) :=
  anyL_append rfl (fun _ _ => rfl) a b

theorem xOKL_iff (l : List Expr) : xOKL l = true ↔ ∀ x ∈ l, xOK x = true :=
  allL_iff rfl (fun _ _ => rfl) l

mutual
theorem hasTopNested_topN : ∀ (e : Expr), hasTopNested e = true → topN e = true := by
  intro e h
  cases e with
  | nested => rfl
  | group _ es => exact hasTopNestedL_topNL es h
  | _ => cases h
theorem hasTopNestedL_topNL : ∀ (es : List Expr), hasTopNestedL es = true → topNL es = true
  | [], h => by cases h
  | e :: es, h => Bool.or_eq_true_iff.mpr
    ((Bool.or_eq_true_iff.mp h).imp (hasTopNested_topN e) (hasTopNestedL_topNL es))
end

theorem xOK_group {op : BoolSym} (es : List Expr) :
    xOK (.group op es) = true ↔ (∀ x ∈ es, xOK x = true) ∧ (op = .and → topNL es = false) := by
  rw [← xOKL_iff]
  cases op with
  | and =>
    show (xOKL es && !topNL es) = true ↔ _
    rw [Bool.and_eq_true, Bool.not_eq_true']
    exact and_congr_right fun _ => ⟨fun h _ => h, fun h => h rfl⟩
  | _ => exact ⟨fun h => ⟨h, nofun⟩, And.left⟩

theorem xOK_bin {op : BoolSym} (l r : Expr) (hop : op = .and ∨ op = .or) :
    xOK (.bin l op r) = true ↔ xOK l = true ∧ xOK r = true ∧ (op = .and → topN (.bin l op r) = false) := by
  rcases hop with rfl | rfl
  · show (xOK l && xOK r && !topN l && !topN r) = true ↔ _ ∧ _ ∧ (_ → (topN l || topN r) = false)
    simp only [Bool.and_eq_true, Bool.not_eq_true', Bool.or_eq_false_iff, and_assoc, forall_const]
  · exact Bool.and_eq_true_iff.trans (and_congr_right fun _ => ⟨fun h => ⟨h, nofun⟩, And.left⟩)

theorem topNL_false (l : List Expr) : topNL l = false ↔ ∀ x ∈ l, topN x = false :=
  anyL_eq_false rfl (fun _ _ => rfl) l

section
variable {op : BoolSym} (hop : op = .and ∨ op = .or)
include hop

theorem topN_bin (l r : Expr) : topN (.bin l op r) = (topN l || topN r) := by
  rcases hop with rfl | rfl <;> rfl

theorem flat_topN {x : Expr} {p : List Expr} (h : Flat op x p) : topNL p = topN x := by
  cases h with
  | self => exact Bool.or_false _
  | group => rfl
  | bin a b => rw [topN_bin hop]; exact congrArg _ (Bool.or_false _)

theorem flat_xOK {x : Expr} {p : List Expr} (h : Flat op x p) (hx : xOK x = true) :
    ∀ y ∈ p, xOK y = true := by
  cases h with
  | self => exact List.forall_mem_singleton.mpr hx
  | group => exact ((xOK_group _).mp hx).1
  | bin a b =>
    have := (xOK_bin a b hop).mp hx
    exact List.forall_mem_cons.mpr ⟨this.1, List.forall_mem_singleton.mpr this.2.1⟩

theorem regroup_topN {l r : Expr} {pl pr : List Expr} (fl : Flat op l pl) (fr : Flat op r pr) :
    topN (.group op (pl ++ pr)) = topN (.bin l op r) := by
  show topNL _ = _
  rw [topNL_append, flat_topN hop fl, flat_topN hop fr, topN_bin hop]

theorem regroup_xOK {l r : Expr} {pl pr : List Expr} (fl : Flat op l pl) (fr : Flat op r pr)
    (hx : xOK (.bin l op r) = true) : xOK (.group op (pl ++ pr)) = true := by
  obtain ⟨hl, hr, hn⟩ := (xOK_bin l r hop).mp hx
  exact (xOK_group _).mpr ⟨List.forall_mem_append.mpr ⟨flat_xOK hop fl hl, flat_xOK hop fr hr⟩,
    fun ho => (regroup_topN hop fl fr).trans (hn ho)⟩

end

theorem shake0G_topN {e e' : Expr} (h : Shake0G false e e') (ht : topN e = false) : topN e' = false := by
  induction h with
  | refl => exact ht
  | unwrap op _ ih => exact ih ((Bool.or_false _).symm.trans ht)
  | group op es f _ _ ih =>
    exact (topNL_false _).mpr (List.forall_mem_map.mpr fun y hy => ih y hy ((topNL_false es).mp ht y hy))
  | bin op _ _ ihl ihr =>
    cases op with
    | and | or =>
      have ht := Bool.or_eq_false_iff.mp ht
      exact Bool.or_eq_false_iff.mpr ⟨ihl ht.1, ihr ht.2⟩
    | _ => rfl
  | regroup hop _ fl fr _ ihb ihg => exact ihg ((regroup_topN hop fl fr).trans (ihb ht))
  | «match» => rfl
  | negate => rfl
  | dneg hdn => cases hdn
  | nested => cases ht

/-- With no double negation eliminated, shake_0 leaves a nested mapping on top only where the
    input had one (as an operand of the same and/or structure). -/
theorem shake0_topN : ∀ (fuel : Nat) (e : Expr), (shake0F fuel e).2 = false →
    topN (shake0F fuel e).1 = true → topN e = true :=
  fun _ _ hfl ht => (Bool.not_eq_false _).mp fun hf =>
    Bool.false_ne_true ((shake0G_topN (shake0_graph hfl) hf).symm.trans ht)

theorem shake0G_xOK {e e' : Expr} (h : Shake0G false e e') (hok : shakeOK e = true)
    (hx : xOK e = true) : xOK e' = true := by
  induction h with
  | refl => exact hx
  | unwrap op _ ih =>
    obtain ⟨_, _, hm⟩ := (shakeOK_group op [_]).mp hok
    exact ih (hm _ List.mem_cons_self) (((xOK_group [_]).mp hx).1 _ List.mem_cons_self)
  | group op es f h1 hG ih =>
    obtain ⟨_, _, hsm⟩ := (shakeOK_group op es).mp hok
    obtain ⟨hxm, hxt⟩ := (xOK_group es).mp hx
    exact (xOK_group _).mpr ⟨List.forall_mem_map.mpr fun y hy => ih y hy (hsm y hy) (hxm y hy),
      fun ho => shake0G_topN (.group op es f h1 hG) (hxt ho)⟩
  | bin op hl hr ihl ihr =>
    by_cases hop : op = .and ∨ op = .or
    · rw [shakeOK_bin hop, Bool.and_eq_true] at hok
      obtain ⟨xl, xr, hn⟩ := (xOK_bin _ _ hop).mp hx
      exact (xOK_bin _ _ hop).mpr ⟨ihl hok.1 xl, ihr hok.2 xr, fun ho => shake0G_topN (.bin op hl hr) (hn ho)⟩
    · obtain ⟨rfl, rfl⟩ := shake0G_cmp (not_or.mp hop) hok hl hr
      exact hx
  | regroup hop hb fl fr _ ihb ihg =>
    exact ihg (regroup_shakeOK hop fl fr (shake0G_class hb hok).ok).1 (regroup_xOK hop fl fr (ihb hok hx))
  -- `xOK` of all()/of() and of a negation is `xOK` of the operand by definition
  | «match» k _ ih => exact ih (Bool.and_eq_true_iff.mp hok).2 hx
  | negate _ ih => exact ih hok hx
  | dneg hdn => cases hdn
  | nested f hG ih =>
    have hok := Bool.and_eq_true_iff.mp hok
    have hx := Bool.and_eq_true_iff.mp hx
    have hs := (shake0G_class hG hok.2).special hok.1 ((Bool.not_eq_true' _).mp hx.1)
    exact Bool.and_eq_true_iff.mpr ⟨(Bool.not_eq_true' _).mpr hs, ih hok.2 hx.2⟩

theorem shake0_xOK : ∀ (fuel : Nat) (e : Expr), shakeOK e = true → (shake0F fuel e).2 = false →
    xOK e = true → xOK (shake0F fuel e).1 = true :=
  fun _ _ hok hfl hx => shake0G_xOK (shake0_graph hfl) hok hx

mutual
/-- `shakeOK` and `xOK` together are the class of `shake1_exact`. -/
theorem e1OK_of : ∀ (e : Expr), shakeOK e = true → xOK e = true → e1OK e = true := by
  intro e hs hx
  cases e with
  | group op es =>
    obtain ⟨hop, hne, hm⟩ := (shakeOK_group op es).mp hs
    obtain ⟨hxl, hxt⟩ := (xOK_group es).mp hx
    refine (e1OK_group op es).mpr
      ⟨hne, (e1OKL_iff es).mp (e1OKL_of es ((shakeOKL_iff es).mpr hm) ((xOKL_iff es).mpr hxl)), ?_⟩
    rcases hop with rfl | rfl
    · exact .inr ⟨rfl, Bool.eq_false_iff.mpr
        (mt (hasTopNestedL_topNL es) (Bool.eq_false_iff.mp (hxt rfl)))⟩
    · exact .inl rfl
  | bin l op r =>
    cases op with
    | and | or =>
      have hs := Bool.and_eq_true_iff.mp hs
      obtain ⟨xl, xr, _⟩ := (xOK_bin l r (by simp)).mp hx
      exact Bool.and_eq_true_iff.mpr ⟨e1OK_of l hs.1 xl, e1OK_of r hs.2 xr⟩
    -- of a comparison `e1OK` asks what `shakeOK` asks
    | _ => exact hs
  | «match» k x =>
    have hs := Bool.and_eq_true_iff.mp hs
    exact Bool.and_eq_true_iff.mpr ⟨hs.1, e1OK_of x hs.2 hx⟩
  | negate x => exact e1OK_of x hs hx
  | nested f x =>
    have hs := Bool.and_eq_true_iff.mp hs
    have hx := Bool.and_eq_true_iff.mp hx
    exact Bool.and_eq_true_iff.mpr ⟨Bool.and_eq_true_iff.mpr ⟨hs.1, hx.1⟩, e1OK_of x hs.2 hx.2⟩
  -- of a search `e1OK` asks what `xOK` asks
  | search s f c => cases s <;> exact hx
  | _ => rfl
theorem e1OKL_of : ∀ (es : List Expr), shakeOKL es = true → xOKL es = true → e1OKL es = true
  | [], _, _ => rfl
  | e :: es, hs, hx => by
    have hs := Bool.and_eq_true_iff.mp hs
    have hx := Bool.and_eq_true_iff.mp hx
    exact Bool.and_eq_true_iff.mpr ⟨e1OK_of e hs.1 hx.1, e1OKL_of es hs.2 hx.2⟩
end

end Tau
