import Tau.Proofs.Shake0
import Tau.Proofs.MappingBuilt
/-
  Everything `parse_mapping` / `parse_identifier` builds lies in `shakeOK`, the class of trees on
  which `shake_0` is exact (Tau.Proofs.Shake0), with the structural side facts the induction needs:
  list members are never all()/of() nodes or and/or chains, nested bodies are never a one-member
  group around an all()/of().
-/
namespace Tau

/-- A list member or scalar value: in `shakeOK`, fit to stand under all()/of() (`matchChildOK`), never
    turned into an all()/of() node by shake_0 (`mayBecomeMatch`), fit as the body of a nested block. -/
def Member (g : Expr) : Prop :=
  shakeOK g = true ∧ matchChildOK g = true ∧ mayBecomeMatch g = false ∧ nestedChildOK g = true

/-- One `(key, value)` entry, or a mapping body: in `shakeOK` and fit as the body of a nested block. -/
def Entry (x : Expr) : Prop := shakeOK x = true ∧ nestedChildOK x = true

def MemberAll (es : List Expr) : Prop := ∀ e ∈ es, Member e
def EntryAll (es : List Expr) : Prop := ∀ e ∈ es, Entry e

theorem Member.entry {g : Expr} (h : Member g) : Entry g := ⟨h.1, h.2.2.2⟩

theorem member_search (s : Search) (f : Str) (c : Bool) : Member (.search s f c) := ⟨rfl, rfl, rfl, rfl⟩

theorem member_cmp (l : Expr) (op : BoolSym) (r : Expr) (hl : isLeafE l = true) (hr : isLeafE r = true)
    (hop : op ≠ .and ∧ op ≠ .or) : Member (.bin l op r) := by
  -- under a comparison `shakeOK` is leafness of both sides; the other three read the head symbol
  cases op with
  | and => exact absurd rfl hop.1
  | or => exact absurd rfl hop.2
  | _ => exact ⟨Bool.and_eq_true_iff.2 ⟨hl, hr⟩, rfl, rfl, rfl⟩

theorem member_nested {f : Str} {x : Expr} (h : Entry x) : Member (.nested f x) :=
  ⟨Bool.and_eq_true_iff.2 ⟨h.2, h.1⟩, rfl, rfl, rfl⟩

theorem entry_wrapNot {misc : Option ModSym} {x : Expr} (h : Entry x) : Entry (wrapNot misc x) :=
  wrapNot_ind misc x h ⟨h.1, rfl⟩

theorem shapeGroup_entry {e g : Expr} {gs : List Expr} {multiple : Bool} (h : MemberAll (g :: gs)) :
    Entry (shapeGroup e g gs multiple) := by
  have hg : Member g := h g (by simp)
  have hgrp : shakeOK (.group .or (g :: gs)) = true :=
    (shakeOK_group _ _).mpr ⟨.inr rfl, List.cons_ne_nil _ _, fun e he => (h e he).1⟩
  have hmatch : ∀ k, Entry (.match k g) := fun k => ⟨Bool.and_eq_true_iff.2 ⟨hg.2.1, hg.1⟩, rfl⟩
  have hmg : ∀ k, gs.isEmpty = false → Entry (.match k (.group .or (g :: gs))) := by
    intro k hne
    have : 2 ≤ (g :: gs).length := by
      cases gs with
      | nil => cases hne
      | cons _ l => exact Nat.le_add_left 2 l.length
    exact ⟨Bool.and_eq_true_iff.2 ⟨decide_eq_true this, hgrp⟩, rfl⟩
  have hplain : Entry (.group .or (g :: gs)) := by
    refine ⟨hgrp, ?_⟩
    cases gs with
    | nil => show (!mayBecomeMatch g) = true; rw [hg.2.2.1]; rfl
    | cons _ _ => rfl
  exact shapeGroup_ind e g gs multiple hg.entry hmatch hmg hplain

theorem built_entry :
    (∀ x, BuiltM (isLeafE · = true) x → Member x) ∧ (∀ x, BuiltE (isLeafE · = true) x → Entry x) ∧
      (∀ x, BuiltB (isLeafE · = true) x → Entry x) :=
  Built.ind (member_cmp _ _ _) (member_search _ _ _) (fun _ h => member_nested h)
    (fun _ h => entry_wrapNot h.entry) (fun _ h => entry_wrapNot (shapeGroup_entry h)) (fun _ h => h)
    fun _ h => ⟨(shakeOK_group _ _).mpr ⟨.inl rfl, List.cons_ne_nil _ _, fun x hx => (h x hx).1⟩, rfl⟩

theorem BuiltI.shakeOK {x} : BuiltI (isLeafE · = true) x → shakeOK x = true
  | .body h => (built_entry.2.2 x h).1
  | .or hne h => (shakeOK_group _ _).mpr ⟨.inr rfl, hne, fun x hx => (built_entry.2.2 x (h x hx)).1⟩

theorem batchMembers_member (st : SeqSt) (f : Str) (h : MemberAll st.rest) : MemberAll (batchMembers st f).1 :=
  batchMembers_all Member member_search st f h

theorem entries_entry (E : RegexEngine) (ic : Bool) : ∀ (kvs : List (Yaml × Yaml)) (es : List Expr),
    parseEntries E ic kvs = .ok es → EntryAll es := fun kvs _ h x hx =>
  built_entry.2.1 x ((entries_post E ic (fun _ => id) kvs).ok h x hx)

theorem pair_entry (E : RegexEngine) (ic : Bool) : ∀ (p : Yaml × Yaml) (x : Expr),
    parsePair E ic p = .ok x → Entry x := fun p _ h =>
  built_entry.2.1 _ ((pair_post E ic (fun _ => id) p).ok h)

theorem val_entry (E : RegexEngine) (ic : Bool) (e : Expr) (f : Str) (misc : Option ModSym) :
    ∀ (v : Yaml) (x : Expr), (v.isSeq = false → isLeafE e = true) → isLeafE (unmatchedOf e) = true →
      parseVal E ic e f misc v = .ok x → Entry x := fun v _ hk hu h =>
  built_entry.2.1 _ (.of ((val_post E ic (fun _ => id) e f misc v hk hu).ok h))

theorem members_member (E : RegexEngine) (ic : Bool) (f : Str) (misc : Option ModSym) (lhs : Expr)
    (hl : isLeafE lhs = true) :
    ∀ (vs : List Yaml) (st st' : SeqSt), parseMembers E ic f misc lhs vs st = .ok st' →
      MemberAll st.rest → MemberAll st'.rest := by
  intro vs st st' h hs
  exact (members_post E ic (fun _ => id) f misc lhs hl built_entry.1 vs st hs).ok h

theorem parseIdentifier_shakeOK (E : RegexEngine) (ic : Bool) (y : Yaml) (e : Expr)
    (h : parseIdentifier E ic y = .ok e) : shakeOK e = true :=
  ((parseIdentifier_post E ic (fun _ => id) y).ok h).shakeOK

end Tau
