import Tau.Pattern
/-
  The pattern parsers of identifier.rs, for any string, in either build, with any regex engine:
  they fail with `InvalidIdentifier` and nothing else, and a numeric pattern they return carries
  the comparison operator that was written (never `and` / `or`).
-/
namespace Tau

theorem parseNumPat_error {op : BoolSym} {s : Str} {e : Err} :
    parseNumPat op s = .error e → e = .parseInvalidIdent := by
  fun_cases parseNumPat op s <;> intro h <;> cases h <;> rfl

theorem patternOf_error {E : RegexEngine} {ci : Bool} {s : Str} {e : Err} :
    patternOf E ci s = .error e → e = .parseInvalidIdent := by
  -- arms 1, 2: a regex that compiles, one that does not; 3-7: the comparisons; 8: a literal
  fun_cases patternOf E ci s
  case case1 | case8 => nofun
  case case2 => intro h; cases h; rfl
  all_goals exact parseNumPat_error

theorem intoIdentifier_error {E : RegexEngine} {ic : Bool} {s : Str} {e : Err}
    (h : intoIdentifier E ic s = .error e) : e = .parseInvalidIdent := by
  unfold intoIdentifier at h
  split at h
  · cases h
  · next hp => cases h; exact patternOf_error hp

theorem parseNumPat_op {P : BoolSym → Prop} {op : BoolSym} {s : Str} {p : Pattern} (hP : P op) :
    parseNumPat op s = .ok p →
    (∀ op' i, p = .cmpI op' i → P op') ∧ (∀ op' b, p = .cmpF op' b → P op') := by
  fun_cases parseNumPat op s <;> intro h <;> cases h <;>
    exact ⟨fun _ _ e => by cases e <;> exact hP, fun _ _ e => by cases e <;> exact hP⟩

theorem lastIs_of_not_mem {s : Str} {q : Char} (h : q ∉ s) : lastIs s q = false := by
  simp only [lastIs, beq_eq_false_iff_ne]
  exact fun hg => h (List.mem_of_getLast? hg)

theorem literalPattern_not_numeric (ci : Bool) (s : Str) : (literalPattern ci s).isNumeric = false := by
  fun_cases literalPattern ci s <;> rfl

theorem ops_of_not_numeric {P : BoolSym → Prop} {p : Pattern} (hn : p.isNumeric = false) :
    (∀ op i, p = .cmpI op i → P op) ∧ (∀ op b, p = .cmpF op b → P op) :=
  ⟨fun op i hp => (by rw [hp] at hn; cases hn), fun op b hp => (by rw [hp] at hn; cases hn)⟩

theorem patternOf_ops {E : RegexEngine} {ci : Bool} {s : Str} {p : Pattern} :
    patternOf E ci s = .ok p →
    (∀ op i, p = .cmpI op i → op ≠ .and ∧ op ≠ .or) ∧ (∀ op b, p = .cmpF op b → op ≠ .and ∧ op ≠ .or) := by
  fun_cases patternOf E ci s
  case case1 => intro h; cases h; exact ops_of_not_numeric rfl
  case case2 => nofun
  case case8 => intro h; cases h; exact ops_of_not_numeric (literalPattern_not_numeric ci s)
  all_goals exact parseNumPat_op (by decide)

theorem intoIdentifier_ops (E : RegexEngine) (ic : Bool) (s : Str) (i : Ident) (h : intoIdentifier E ic s = .ok i) :
    (∀ op n, i.pat = .cmpI op n → op ≠ .and ∧ op ≠ .or) ∧ (∀ op b, i.pat = .cmpF op b → op ≠ .and ∧ op ≠ .or) := by
  unfold intoIdentifier at h
  split at h
  · rename_i p hp
    cases h
    exact patternOf_ops hp
  · cases h

end Tau
