import Tau.Proofs.Shake1Exact
import Tau.Proofs.MatrixShape
import Tau.Proofs.Basics
/-
  `matrix` keeps every verdict (true / not true) on the class `mOK`: a re-keyed cell reads the cache
  exactly as the member reads the document, and the cache only ever holds what the document returns
  for that column; so a row is true iff the members it was built from are, no conjunct is lost, and
  the rebuilt or-group is true iff a member is.  Under all()/of() the pass runs `shake_1` again, so
  that arm rests on its exactness (Shake1Exact.lean).
-/
namespace Tau

mutual
/-- Trees on which `matrix` keeps every verdict.  Outside all()/of(): no `not` (a row reports
    false/missing in column order, finding KF-C01-matrix-order, which a `not` would turn into a
    verdict), comparisons on leaves only, a nested mapping neither on an all()-list nor on a
    one-member group around an all()/of().  An all()/of() node: whatever is in `e1OK`, because the
    pass runs `shake_1` again there instead of descending; a `not` may stand under it. -/
def mOK : Expr → Bool
  | .group .and es => mOKL es
  | .group .or es => mOKL es
  | .group _ _ => false
  | .bin l .and r => mOK l && mOK r
  | .bin l .or r => mOK l && mOK r
  | .bin l _ r => isLeafE l && isLeafE r
  | .match k x => e1OK (.match k x)
  | .negate _ => false
  | .nested _ x => nestedChildOK x && !nestedSpecial x && mOK x
  | _ => true
def mOKL : List Expr → Bool
  | [] => true
  | e :: es => mOK e && mOKL es
end

theorem mOKL_iff (l : List Expr) : mOKL l = true ↔ ∀ x ∈ l, mOK x = true :=
  allL_iff rfl (fun _ _ => rfl) l

theorem keyed_congr (E : RegexEngine) (K : IdentK) (d d' : Doc) (k f : Str) (m m' : Expr)
    (hf : memberField m = some f) (hr : rekey k m = some m') (h : d'.find k = d.find f) :
    solveG E K d' m' = solveG E K d m := by
  rcases memberField_some hf with ⟨s, c, rfl⟩ | ⟨x, rfl⟩ | ⟨l, op, r, rfl, hlit, hl⟩
  · cases hr; rw [solve_search, solve_search]; exact solveSearch_rekey E d' d s k _ c h
  · cases hr; exact nested_rekey E K d' d k _ x h
  · rw [solveG_keyed_cmp E K d op hl hlit]
    rcases hl with rfl | ⟨kind, rfl⟩ <;> cases hr
    · rw [solveG_keyed_cmp E K d' op (.inl rfl) hlit, solveCmp_keyed_rekey d' d op (.inl ⟨rfl, rfl⟩) hlit h]
    · rw [solveG_keyed_cmp E K d' op (.inr ⟨kind, rfl⟩) hlit, solveCmp_keyed_rekey d' d op (.inr ⟨kind, rfl, rfl⟩) hlit h]

/-- Not `= .m`: a `str(..)` / `not(..)` cast against a literal is false on a missing field. -/
theorem keyed_missing (E : RegexEngine) (K : IdentK) (d : Doc) (f : Str) (m : Expr)
    (hf : memberField m = some f) (h : d.find f = none) : solveG E K d m ≠ .t := by
  rcases memberField_some hf with ⟨s, c, rfl⟩ | ⟨x, rfl⟩ | ⟨l, op, r, rfl, hlit, hl⟩
  · simp [solveG, solveSearch, h]
  · rw [nested_missing E K d _ x h]; exact Tri.noConfusion
  · rw [solveG_keyed_cmp E K d op hl hlit]
    split
    · exact Tri.noConfusion
    · exact solveCmp_keyed_missing d op hl hlit h

/-- The per-evaluation matrix cache is consistent with the document: it holds, at column `i`, only
    what the document returns for column `i`. -/
def Cons (d : Doc) (cols : List Str) (cache : List (Option Value)) : Prop :=
  ∀ (i : Nat) (v : Value), (cache[i]?).join = some v → ∃ col : Str, cols[i]? = some col ∧ d.find col = some v

theorem cons_empty (d : Doc) (cols : List Str) : Cons d cols (emptyCache cols) := by
  intro i v h
  simp only [emptyCache, List.getElem?_map] at h
  cases hc : cols[i]? <;> simp [hc] at h

/-- How the cells of a row (from column `i` on) come from members `ms`. -/
def RowFrom (cols : List Str) : Nat → List (Option Expr) → List (Option Expr) → Prop
  | _, [], [] => True
  | i, none :: cs, none :: ms => RowFrom cols (i + 1) cs ms
  | i, some e :: cs, some m :: ms =>
    (∃ col, cols[i]? = some col ∧ memberField m = some col ∧ rekey (colKey i) m = some e) ∧
      RowFrom cols (i + 1) cs ms
  | _, _, _ => False

theorem row_truth (E : RegexEngine) (K : IdentK) (d : Doc) (cols : List Str) (h55 : cols.length < 55296) :
    ∀ (cells ms : List (Option Expr)) (i : Nat) (cache : List (Option Value)),
      RowFrom cols i cells ms → Cons d cols cache → cache.length = cols.length →
      Cons d cols (rowG E K d cols cells i cache).2 ∧
      (rowG E K d cols cells i cache).2.length = cols.length ∧
      ((rowG E K d cols cells i cache).1 = .t ↔ ∀ m, some m ∈ ms → solveG E K d m = .t) := by
  -- the length is `rowG_cache_length`; the induction carries the other two
  suffices H : ∀ (cells ms : List (Option Expr)) (i : Nat) (cache : List (Option Value)),
      RowFrom cols i cells ms → Cons d cols cache → cache.length = cols.length →
      Cons d cols (rowG E K d cols cells i cache).2 ∧
      ((rowG E K d cols cells i cache).1 = .t ↔ ∀ m, some m ∈ ms → solveG E K d m = .t) from
    fun cells ms i cache hr hc hl =>
      ⟨(H cells ms i cache hr hc hl).1, by rw [rowG_cache_length, hl], (H cells ms i cache hr hc hl).2⟩
  intro cells ms i
  fun_induction RowFrom cols i cells ms with
  | case1 => exact fun cache _ hc _ => ⟨hc, nofun, fun _ => rfl⟩
  | case2 i cs ms ih =>
    intro cache hr hc hl
    obtain ⟨a, c⟩ := ih cache hr hc hl
    simp only [rowG]
    exact ⟨a, by rw [c]; simp⟩
  | case3 i e cs m ms ih =>
    intro cache ⟨⟨col, hcol, hmf, hrk⟩, hrest⟩ hc hl
    have hi : i < cols.length := (List.getElem?_eq_some_iff.mp hcol).1
    -- the cell once its column is in the cache
    have filled : ∀ cache' v, Cons d cols cache' → cache'.length = cols.length →
        (cache'[i]?).join = some v → d.find col = some v →
        Cons d cols (rowG E K d cols (some e :: cs) i cache').2 ∧
        ((rowG E K d cols (some e :: cs) i cache').1 = .t ↔
          ∀ x, some x ∈ some m :: ms → solveG E K d x = .t) := by
      intro cache' v hc' hl' hj hv
      have he : solveG E K (.cache cache') e = solveG E K d m :=
        keyed_congr E K d (.cache cache') (colKey i) col m e hmf hrk
          (by rw [cache_find cache' i (by omega), hj, hv])
      simp only [rowG, hj, he, List.mem_cons, Option.some.injEq, forall_eq_or_imp]
      cases hm : solveG E K d m with
      | t =>
        obtain ⟨a, c⟩ := ih cache' hrest hc' hl'
        exact ⟨a, by simp [c]⟩
      | f => exact ⟨hc', by simp⟩
      | m => exact ⟨hc', by simp⟩
    cases hj : (cache[i]?).join with
    | some v =>
      obtain ⟨col', hcol', hv⟩ := hc i v hj
      cases hcol.symm.trans hcol'
      exact filled cache v hc hl hj hv
    | none =>
      cases hfd : d.find col with
      | none =>
        simp only [rowG, hj, hcol, hfd]
        refine ⟨hc, ⟨nofun, fun h => absurd (h m (by simp)) (keyed_missing E K d col m hmf hfd)⟩⟩
      | some v =>
        have hset : ((cacheSet cache i v)[i]?).join = some v := by simp [cacheSet, hl, hi]
        -- the row does the same once the value is in the cache
        have hsame : rowG E K d cols (some e :: cs) i cache =
            rowG E K d cols (some e :: cs) i (cacheSet cache i v) := by
          simp only [rowG, hj, hcol, hfd, hset]
        rw [hsame]
        refine filled (cacheSet cache i v) v (fun j w hjw => ?_) (by simp [cacheSet, hl]) hset hfd
        by_cases hji : j = i
        · subst hji
          rw [hset] at hjw; cases hjw
          exact ⟨col, hcol, hfd⟩
        · exact hc j w (by simpa [cacheSet, List.getElem?_set, Ne.symm hji] using hjw)
  | case4 => exact fun _ h => h.elim

theorem rekey_some (k : Str) (m : Expr) (f : Str) (h : memberField m = some f) : ∃ e, rekey k m = some e := by
  rcases memberField_some h with ⟨s, c, rfl⟩ | ⟨x, rfl⟩ | ⟨l, op, r, rfl, _, rfl | ⟨kind, rfl⟩⟩ <;>
    exact ⟨_, rfl⟩

theorem rowOf_from_aux (cols : List Str) (src : Nat → Option Expr)
    (h : ∀ i x, i < cols.length → src i = some x → memberField x = some (cols.getD i [])) :
    ∀ (n i : Nat), i + n ≤ cols.length →
      RowFrom cols i ((List.range' i n).map fun j => (src j).bind (rekey (colKey j))) ((List.range' i n).map src)
  | 0, i, _ => trivial
  | n + 1, i, hn => by
    have rest := rowOf_from_aux cols src h n (i + 1) (by omega)
    have hi : i < cols.length := by omega
    simp only [List.range'_succ, List.map_cons]
    cases hs : src i with
    | none => exact rest
    | some m =>
      have hmf := h i m hi hs
      obtain ⟨e, he⟩ := rekey_some (colKey i) m _ hmf
      rw [Option.bind_some, he]
      exact ⟨⟨_, by rw [List.getD_eq_getElem?_getD, List.getElem?_eq_getElem hi]; rfl, hmf, he⟩, rest⟩

theorem rowOf_truth (E : RegexEngine) (K : IdentK) (d : Doc) (cols : List Str) (h55 : cols.length < 55296)
    (pick : Str → Option Expr) (h : ∀ c x, pick c = some x → memberField x = some c)
    (cache : List (Option Value)) (hc : Cons d cols cache) (hl : cache.length = cols.length) :
    Cons d cols (rowG E K d cols (rowOf cols pick) 0 cache).2 ∧
    (rowG E K d cols (rowOf cols pick) 0 cache).2.length = cols.length ∧
    ((rowG E K d cols (rowOf cols pick) 0 cache).1 = .t ↔ ∀ c ∈ cols, ∀ m, pick c = some m → solveG E K d m = .t) := by
  have hfrom : RowFrom cols 0 (rowOf cols pick) ((List.range cols.length).map fun i => pick (cols.getD i [])) := by
    unfold rowOf
    rw [List.range_eq_range']
    exact rowOf_from_aux cols _ (fun i x _ => h _ x) _ 0 (by omega)
  obtain ⟨a, b, c⟩ := row_truth E K d cols h55 _ _ 0 cache hfrom hc hl
  refine ⟨a, b, c.trans ?_⟩
  simp only [List.mem_map, List.mem_range]
  refine ⟨fun h c hc m hm => ?_, fun h m ⟨i, hi, hm⟩ => h _ (by simp [List.getD, hi]) m hm⟩
  obtain ⟨i, hi, rfl⟩ := List.getElem_of_mem hc
  exact h m ⟨i, hi, by simpa [List.getD, hi] using hm⟩

/-- What `rowOfMembers` checked: every member has a column and no two share one. -/
theorem rowOfMembers_facts (cols : List Str) (es : List Expr) (row : List (Option Expr))
    (h : rowOfMembers cols es = some row) :
    (∀ m ∈ es, (memberField m).isSome = true) ∧
    (∀ m ∈ es, ∀ m' ∈ es, ∀ i j (hi : i < es.length) (hj : j < es.length),
      es[i] = m → es[j] = m' → memberField m = memberField m' → i = j) := by
  obtain ⟨hall, hlen, _⟩ := rowOfMembers_some h
  have hnd := (eraseDups_length _).2 hlen.symm
  -- every field is there, so the list of fields is the list of `some`s
  have hl : es.map memberField = (es.map fun x => (memberField x).getD []).map some := by
    rw [List.map_map]
    exact List.map_congr_left fun x hx => by
      obtain ⟨f, hf⟩ := Option.isSome_iff_exists.mp (hall x hx); simp [hf]
  rw [hl, List.filterMap_map] at hnd
  have hnd' : (es.map fun x => (memberField x).getD []).Nodup := by simpa using hnd
  refine ⟨hall, fun m hm m' hm' i j hi hj hei hej heq => ?_⟩
  exact (List.getElem_inj (h₀ := by simpa using hi) (h₁ := by simpa using hj) hnd').mp (by
    simp only [List.getElem_map, hei, hej, heq])

theorem find_member {cols : List Str} {es : List Expr} {row : List (Option Expr)}
    (h : rowOfMembers cols es = some row) (m : Expr) (hm : m ∈ es) (f : Str) (hmf : memberField m = some f) :
    es.find? (fun x => memberField x == some f) = some m :=
  find?_unique hm (by simp [hmf]) fun m' hm' hp => by
    obtain ⟨a, ha, hea⟩ := List.getElem_of_mem hm
    obtain ⟨b, hb, heb⟩ := List.getElem_of_mem hm'
    cases (rowOfMembers_facts cols es row h).2 m hm m' hm' a b ha hb hea heb (by rw [hmf, eq_of_beq hp])
    rw [← hea, ← heb]

/-- The columns a member of the or-group needs; `countFields` inserts them all. -/
def needsCol (x : Expr) (f : Str) : Prop :=
  memberField x = some f ∨ ∃ ms, x = .group .and ms ∧
    (∀ m ∈ ms, (memberField m).isSome = true) ∧ ∃ m ∈ ms, memberField m = some f

theorem classify_inl_truth (E : RegexEngine) (K : IdentK) (d : Doc) (cols : List Str) (h55 : cols.length < 55296)
    (x : Expr) (row : List (Option Expr)) (hcols : ∀ f, needsCol x f → f ∈ cols)
    (h : matrixClassify cols x = .inl row) (cache : List (Option Value)) (hc : Cons d cols cache)
    (hl : cache.length = cols.length) :
    Cons d cols (rowG E K d cols row 0 cache).2 ∧ (rowG E K d cols row 0 cache).2.length = cols.length ∧
      ((rowG E K d cols row 0 cache).1 = .t ↔ solveG E K d x = .t) := by
  rcases matrixClassify_inl h with ⟨f, hf, rfl⟩ | ⟨ms, rfl, hrow⟩
  · obtain ⟨a, b, c⟩ := rowOf_truth E K d cols h55 (fun c => if c == f then some x else none) (fun c y hy => by
      split at hy <;> cases hy
      rename_i hc; rw [hf, eq_of_beq hc]) cache hc hl
    refine ⟨a, b, c.trans ⟨fun h => h f (hcols f (.inl hf)) x (by simp), fun h c _ m hm => ?_⟩⟩
    split at hm <;> cases hm
    exact h
  · obtain ⟨hall, _, rfl⟩ := rowOfMembers_some hrow
    obtain ⟨a, b, c⟩ := rowOf_truth E K d cols h55 (fun c => ms.find? fun x => memberField x == some c)
      (fun c m hm => by simpa using List.find?_some hm) cache hc hl
    refine ⟨a, b, c.trans ?_⟩
    rw [and_group_true]
    refine ⟨fun h m hm => ?_, fun h c _ m hm => h m (List.mem_of_find?_eq_some hm)⟩
    obtain ⟨f, hmf⟩ := Option.isSome_iff_exists.mp (hall m hm)
    exact h f (hcols f (.inr ⟨ms, rfl, hall, m, hm, hmf⟩)) m (find_member hrow m hm f hmf)

theorem mem_countInsert (f k : Str) (l : List (Str × Nat)) (h : k = f ∨ k ∈ l.map (·.1)) :
    k ∈ (countInsert f l).map (·.1) := by
  fun_induction countInsert f l with
  | case1 => exact List.mem_cons.mpr h
  | case2 k' n rest hc => exact List.mem_cons.mpr h
  | case3 k' n rest hc => cases strCmp_eq f k' hc; exact List.mem_cons.mpr (h.elim .inl List.mem_cons.mp)
  | case4 k' n rest hc ih =>
    rcases h with h | h
    · exact List.mem_cons_of_mem _ (ih (.inl h))
    · exact (List.mem_cons.mp h).elim (fun e => e ▸ List.mem_cons_self) fun h => List.mem_cons_of_mem _ (ih (.inr h))

theorem mem_foldCount (ms : List Expr) : ∀ (acc : List (Str × Nat)) (k : Str),
    (k ∈ acc.map (·.1) ∨ ∃ m ∈ ms, memberField m = some k) →
    k ∈ (ms.foldl (fun acc x => match memberField x with | some f => countInsert f acc | none => acc) acc).map (·.1) := by
  induction ms with
  | nil => exact fun acc k h => h.resolve_right nofun
  | cons m ms ih =>
    intro acc k h
    apply ih
    dsimp only
    rcases h with h | ⟨x, hx, hf⟩
    · left
      cases memberField m with
      | none => exact h
      | some f => exact mem_countInsert f k acc (Or.inr h)
    · rcases List.mem_cons.mp hx with rfl | hx
      · left; rw [hf]; exact mem_countInsert k k acc (Or.inl rfl)
      · exact Or.inr ⟨x, hx, hf⟩

theorem mem_countFields (fields : List (Str × Nat)) (x : Expr) (k : Str)
    (h : k ∈ fields.map (·.1) ∨ needsCol x k) : k ∈ (countFields fields x).map (·.1) := by
  rcases h with h | h | ⟨ms, rfl, hall, m, hm, hf⟩
  · fun_cases countFields fields x
    · exact mem_foldCount _ fields k (Or.inl h)
    -- the other arms insert one field or leave the list alone
    all_goals first | exact mem_countInsert _ k fields (Or.inr h) | exact h
  · rcases memberField_some h with ⟨s, c, rfl⟩ | ⟨b, rfl⟩ | ⟨l, op, r, rfl, _, rfl | ⟨kind, rfl⟩⟩ <;>
      exact mem_countInsert _ _ _ (Or.inl rfl)
  · simp only [countFields, List.all_eq_true.mpr hall, if_true]
    exact mem_foldCount ms fields k (Or.inr ⟨m, hm, hf⟩)

theorem foldFields_cover (scratch : List Expr) : ∀ (acc : List (Str × Nat)),
    (∀ k, k ∈ acc.map (·.1) → k ∈ (scratch.foldl countFields acc).map (·.1)) ∧
    (∀ x ∈ scratch, ∀ f, needsCol x f → f ∈ (scratch.foldl countFields acc).map (·.1)) := by
  induction scratch with
  | nil => intro acc; exact ⟨fun k h => h, fun x hx => by simp at hx⟩
  | cons y ys ih =>
    intro acc
    simp only [List.foldl_cons]
    obtain ⟨m1, m2⟩ := ih (countFields acc y)
    refine ⟨fun k hk => m1 k (mem_countFields acc y k (Or.inl hk)), fun x hx f hn => ?_⟩
    rcases List.mem_cons.mp hx with rfl | hx
    · exact m1 f (mem_countFields acc x f (Or.inr hn))
    · exact m2 x hx f hn

/-- From any consistent cache, threaded through the rows: a row or a member left beside them is
    true exactly when a member of the or-group is. -/
theorem rows_rest_truth (E : RegexEngine) (K : IdentK) (d : Doc) (cols : List Str) (h55 : cols.length < 55296) :
    ∀ (L : List Expr) (cache : List (Option Value)), (∀ x ∈ L, ∀ f, needsCol x f → f ∈ cols) →
      Cons d cols cache → cache.length = cols.length →
      (((∃ v ∈ (rowsG E K d cols ((L.map (matrixClassify cols)).filterMap inlOf) cache).1, v = .t) ∨
          ∃ r ∈ (L.map (matrixClassify cols)).filterMap inrOf, solveG E K d r = .t) ↔
        ∃ x ∈ L, solveG E K d x = .t) := by
  intro L
  induction L with
  | nil => intro _ _ _ _; simp [rowsG]
  | cons x xs ih =>
    intro cache hcov hc hl
    have hxs : ∀ y ∈ xs, ∀ f, needsCol y f → f ∈ cols := fun y hy => hcov y (List.mem_cons_of_mem _ hy)
    cases hcl : matrixClassify cols x with
    | inl row =>
      obtain ⟨a, b, c⟩ := classify_inl_truth E K d cols h55 x row (hcov x List.mem_cons_self) hcl cache hc hl
      simp only [List.map_cons, hcl, List.filterMap_cons, inlOf, inrOf, rowsG, List.mem_cons,
        exists_eq_or_imp]
      rw [← ih _ hxs a b, c, or_assoc]
    | inr y =>
      cases classify_inr cols x y hcl
      simp only [List.map_cons, hcl, List.filterMap_cons, inlOf, inrOf, List.mem_cons, exists_eq_or_imp]
      rw [← ih cache hxs hc hl, or_left_comm]

theorem matrixOut_truth (E : RegexEngine) (K : IdentK) (d : Doc) (scratch : List Expr)
    (h55 : (scratch.foldl countFields []).length < 55296) :
    solveG E K d (matrixOut scratch) = .t ↔ ∃ x ∈ scratch, solveG E K d x = .t := by
  unfold matrixOut
  simp only
  generalize hcols : (stableSort (fun (a b : Str × Nat) => a.2 ≤ b.2) (scratch.foldl countFields [])).map (·.1) = cols
  have hlen : cols.length < 55296 := by
    rw [← hcols, List.length_map, (stableSort_perm _ _).length_eq]; exact h55
  have hcover : ∀ x ∈ scratch, ∀ f, needsCol x f → f ∈ cols := fun x hx f hn =>
    hcols ▸ ((stableSort_perm _ _).map _).mem_iff.mpr ((foldFields_cover scratch []).2 x hx f hn)
  rw [unwrapGroup_solve E K d .or _ (Or.inr rfl), or_group_true,
    ← rows_rest_truth E K d cols hlen scratch _ hcover (cons_empty d cols) (by simp [emptyCache])]
  generalize (scratch.map (matrixClassify cols)).filterMap inlOf = rows
  generalize (scratch.map (matrixClassify cols)).filterMap inrOf = rest
  cases rows with
  | nil => simp [rowsG]
  | cons r rs =>
    simp only [List.isEmpty_cons, Bool.false_eq_true, if_false, List.cons_append, List.nil_append,
      List.mem_cons, exists_eq_or_imp, solveG, Tri.or_eq_t_iff, exists_eq_right]

theorem matrix_leaf (fuel : Nat) (e : Expr) (h : isLeafE e = true) : matrix fuel e = e := by
  cases e with
  | bool | cast | field | float | int | null => cases fuel <;> rfl
  | _ => cases h

/-! Up to `matrix_mbm`: `matrix` makes no new candidate for an all()/of() (`mbm` = `mayBecomeMatch`);
  the nested arm of `matrix_good` needs it. -/

theorem rest_of_no_rows (cols : List Str) (L : List Expr)
    (h : (L.map (matrixClassify cols)).filterMap inlOf = []) :
    (L.map (matrixClassify cols)).filterMap inrOf = L := by
  induction L with
  | nil => rfl
  | cons x xs ih =>
    cases hcl : matrixClassify cols x with
    | inl r => simp [hcl, inlOf] at h
    | inr y =>
      cases classify_inr cols x y hcl
      simp only [List.map_cons, hcl, List.filterMap_cons, inlOf, inrOf] at h ⊢
      rw [ih h]

theorem matrixOut_mbm (scratch : List Expr) (h : mayBecomeMatch (matrixOut scratch) = true) :
    ∃ z, scratch = [z] ∧ mayBecomeMatch z = true := by
  unfold matrixOut at h
  simp only at h
  generalize (stableSort (fun (a b : Str × Nat) => a.2 ≤ b.2) (scratch.foldl countFields [])).map (·.1) = cols at h
  have hrest := rest_of_no_rows cols scratch
  generalize (scratch.map (matrixClassify cols)).filterMap inlOf = rows at h hrest
  generalize (scratch.map (matrixClassify cols)).filterMap inrOf = rest at h hrest
  obtain ⟨z, hz, hm⟩ := mbm_unwrapGroup _ _ h
  cases rows with
  | nil => exact ⟨z, by rw [← hrest rfl]; simpa using hz, hm⟩
  | cons r rs =>
    simp only [List.isEmpty_cons, Bool.false_eq_true, if_false, List.cons_append, List.nil_append,
      List.cons.injEq] at hz
    rw [← hz.1] at hm; cases hm

theorem matrix_match_form (n : Nat) (k : MatchK) (y : Expr) :
    ∃ y', matrix n (.match k y) = .match k y' ∧ nestedSpecial (.match k y') = nestedSpecial (.match k y) := by
  cases n with
  | zero => exact ⟨y, rfl, rfl⟩
  | succ m => rw [matrix_match]; exact shake1_match_form _ k y

theorem matrix_mbm : ∀ fuel e, mayBecomeMatch (matrix fuel e) = true → mayBecomeMatch e = true := by
  refine matrix_induct (P := fun e e' => mayBecomeMatch e' = true → mayBecomeMatch e = true) (leaf := fun _ h => h)
    (bin := fun _ _ _ _ _ _ => nofun) (shake := fun _ _ _ => rfl) (negate := fun _ _ _ => nofun)
    (nested := fun _ _ _ _ => nofun) ?members ?out
  -- a group is a candidate only around a single member
  case members =>
    intro n op es _ ih h
    obtain ⟨z, hz, hm⟩ := mbm_group2 op _ h
    obtain ⟨y, rfl, rfl⟩ := List.map_eq_singleton_iff.mp hz
    exact ih y (List.mem_singleton_self y) hm
  case out =>
    intro es L _ ih h
    obtain ⟨z, rfl, hm⟩ := matrixOut_mbm L h
    exact ih hm

theorem mOK_bin (l : Expr) (op : BoolSym) (r : Expr) :
    mOK (.bin l op r) = if boolOp op = true then mOK l && mOK r else isLeafE l && isLeafE r := by
  cases op <;> rfl

theorem matrix_good (E : RegexEngine) (K : IdentK) : ∀ fuel e, mOK e = true →
    ∀ d, TEq (solveG E K d (matrix fuel e)) (solveG E K d e) := by
  refine matrix_induct (P := fun e e' => mOK e = true → ∀ d, TEq (solveG E K d e') (solveG E K d e))
    (leaf := fun _ _ _ => Iff.rfl) (negate := fun _ _ _ => nofun) ?members ?out ?bin ?shake ?nested
  case members =>
    intro n op es hop ih h d
    have hmem : ∀ y ∈ es, mOK y = true := by rcases hop with rfl | rfl <;> exact (mOKL_iff es).mp h
    exact group_map_truth E K d hop es _ fun y hy => ih y hy (hmem y hy) d
  case out =>
    exact fun es L h55 ih h d => (matrixOut_truth E K d L h55).trans ((or_group_true E K d L).symm.trans (ih h d))
  case bin =>
    intro n l op r ihl ihr h d
    rw [mOK_bin] at h
    split at h <;> rw [Bool.and_eq_true] at h
    · exact bin_truth E K (boolOp_iff.mp ‹_›) (ihl h.1) (ihr h.2) d
    · rw [matrix_leaf n l h.1, matrix_leaf n r h.2]
  case shake =>
    intro k x h d
    rw [(shake1_good E K (shakeFuel x + 1) (.match k x) h).2.1 d]
  case nested =>
    intro n f x ih h
    simp only [mOK, Bool.and_eq_true, Bool.not_eq_true'] at h
    obtain ⟨⟨h1, h2⟩, h3⟩ := h
    have hsp : nestedSpecial (matrix n x) = false :=
      (nestedBody_ok_of (matrix n) x h1 h2 (matrix_mbm n x) fun k y e => e ▸ matrix_match_form n k y).1
    exact nested_truth_congr E K f x (matrix n x) h2 hsp (ih h3)

end Tau
