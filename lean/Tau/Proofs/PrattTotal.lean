import Tau.Proofs.Pratt
/-
  Fuel and the Pratt parser.  With the fuel `parse` hands out no token list makes the model run out
  of fuel, and a result other than running out of fuel stays the same with more fuel; hence `parse`
  succeeds exactly when the fuel-free rules `Parses` derive the result.
-/
namespace Tau

theorem ledCheck_np {op : BoolSym} {l r : Expr} : NP (ledCheck op l r) := by
  intro s h
  rcases ledCheck_error h with h | h | h <;> cases h

theorem parseParenIdent_np (ts : List Token) : NP (parseParenIdent ts) := by
  fun_cases parseParenIdent ts <;> (intro _ h; cases h)

theorem parseOfArgs_np (ts : List Token) : NP (parseOfArgs ts) := by
  fun_cases parseOfArgs ts <;> (intro _ h; cases h)

theorem collectParen_len : ∀ (ts : List Token) (d : Nat) (acc : List Token),
    (collectParen d ts acc).1.length + (collectParen d ts acc).2.length ≤ ts.length + acc.length := by
  intro ts d acc
  obtain ⟨body, closing, h1, h2, -⟩ := collectParen_split ts d acc _ _ rfl
  rw [h1]; conv => rhs; rw [h2]
  simp only [List.length_append, List.length_reverse]; omega

theorem Parses.consumes {c : Call} {e : Expr} {rest : List Token} (h : Parses c e rest) :
    match (generalizing := false) c with
    | .all _ => True
    | .expr _ ts | .nud ts => rest.length < ts.length
    | .loop _ _ ts => rest.length ≤ ts.length := by
  induction h with
  | all => trivial
  | expr _ _ ihn ihl => exact Nat.lt_of_le_of_lt ihl ihn
  | stop => exact Nat.le_refl _
  | led _ _ _ _ ihr ihl => simp only [List.length_cons] at *; omega
  | @paren ts =>
    have := collectParen_len ts 1 []
    simp only [List.length_cons, List.length_nil] at *; omega
  | float | ident | int => simp
  | not _ _ ih => simp only [List.length_cons] at *; omega
  | cast hp | matchAll hp => cases parseParenIdent_tokens hp; simp; omega
  | matchOf hp => obtain ⟨c, rfl⟩ := parseOfArgs_tokens hp; simp; omega

theorem parse_consumes_aux : ∀ (f : Nat),
    (∀ rbp ts e rest, parseExpr f rbp ts = .ok (e, rest) → rest.length < ts.length) ∧
    (∀ rbp left ts e rest, parseLoop f rbp left ts = .ok (e, rest) → rest.length ≤ ts.length) ∧
    (∀ ts e rest, parseNud f ts = .ok (e, rest) → rest.length < ts.length) := fun _ =>
  ⟨fun rbp ts _ _ h => (Parses.sound (c := .expr rbp ts) h).consumes,
    fun rbp left ts _ _ h => (Parses.sound (c := .loop rbp left ts) h).consumes,
    fun ts _ _ h => (Parses.sound (c := .nud ts) h).consumes⟩

/-- Between two tokens consumed the recursion descends at most three levels; the offsets 3, 2, 2, 1
    are the levels still to go from each function to the next token. -/
theorem parse_total_aux : ∀ (f : Nat),
    (∀ ts, 3 * ts.length + 3 ≤ f → NP (parseAll f ts)) ∧
    (∀ rbp ts, 3 * ts.length + 2 ≤ f → NP (parseExpr f rbp ts)) ∧
    (∀ rbp left ts, 3 * ts.length + 2 ≤ f → NP (parseLoop f rbp left ts)) ∧
    (∀ ts, 3 * ts.length + 1 ≤ f → NP (parseNud f ts)) := by
  intro f
  induction f with
  | zero => refine ⟨?_, ?_, ?_, ?_⟩ <;> intros <;> omega
  | succ n ih =>
    obtain ⟨ihAll, ihExpr, ihLoop, ihNud⟩ := ih
    refine ⟨fun ts hf => ?_, fun rbp ts hf => ?_, fun rbp left ts hf => ?_, fun ts hf => ?_⟩
    · rw [parseAll_succ]
      exact NP.bind (ihExpr 0 ts (by omega)) fun p => by split <;> (intro _ h; cases h)
    · rw [parseExpr_succ]
      refine NP.bind_ok (ihNud ts (by omega)) fun p hp => ?_
      have := (parse_consumes_aux n).2.2 ts p.1 p.2 hp
      exact ihLoop rbp _ _ (by omega)
    · cases ts with
      | nil => exact NP.ok _
      | cons next ts' =>
        simp only [List.length_cons] at hf
        rw [parseLoop_succ]
        split
        · exact NP.ok _
        · cases next <;> try (intro _ h; cases h; done)
          refine NP.bind_ok (ihExpr _ ts' (by omega)) fun p hp => ?_
          have := (parse_consumes_aux n).1 _ ts' p.1 p.2 hp
          exact NP.bind ledCheck_np fun _ => ihLoop rbp _ _ (by omega)
    · cases ts with
      | nil => intro _ h; cases h
      | cons t ts' =>
        simp only [List.length_cons] at hf
        rw [parseNud_succ]
        cases t <;> try (intro _ h; cases h; done)
        · have := collectParen_len ts' 1 []
          simp only [List.length_nil] at this
          exact NP.bind (ihAll _ (by omega)) fun _ => NP.ok _
        · exact NP.bind (parseParenIdent_np ts') fun _ => NP.ok _
        · exact NP.bind (ihExpr 95 ts' (by omega)) fun p => by split <;> (intro _ h; cases h)
        · exact NP.bind (parseParenIdent_np ts') fun _ => NP.ok _
        · exact NP.bind (parseOfArgs_np ts') fun _ => NP.ok _

theorem parse_no_panic (ts : List Token) : NP (parse ts) :=
  (parse_total_aux (parseFuel ts)).1 ts (by unfold parseFuel; omega)

theorem parse_stable_aux : ∀ (f : Nat),
    (∀ f' ts, f ≤ f' → NP (parseAll f ts) → parseAll f' ts = parseAll f ts) ∧
    (∀ f' rbp ts, f ≤ f' → NP (parseExpr f rbp ts) → parseExpr f' rbp ts = parseExpr f rbp ts) ∧
    (∀ f' rbp left ts, f ≤ f' → NP (parseLoop f rbp left ts) →
      parseLoop f' rbp left ts = parseLoop f rbp left ts) ∧
    (∀ f' ts, f ≤ f' → NP (parseNud f ts) → parseNud f' ts = parseNud f ts) := by
  intro f
  induction f with
  | zero =>
    refine ⟨?_, ?_, ?_, ?_⟩ <;> intros <;> rename_i h <;> exact absurd rfl (h _)
  | succ n ih =>
    obtain ⟨ihAll, ihExpr, ihLoop, ihNud⟩ := ih
    have succ : ∀ {f'}, n + 1 ≤ f' → ∃ m, f' = m + 1 ∧ n ≤ m := fun h =>
      ⟨_, (Nat.sub_add_cancel (by omega)).symm, by omega⟩
    refine ⟨fun f' ts hle hnp => ?_, fun f' rbp ts hle hnp => ?_, fun f' rbp left ts hle hnp => ?_,
      fun f' ts hle hnp => ?_⟩ <;> obtain ⟨m, rfl, hm⟩ := succ hle
    · simp only [parseAll_succ] at hnp ⊢
      exact bind_stable (ihExpr m 0 ts hm) (fun _ _ _ => rfl) hnp
    · simp only [parseExpr_succ] at hnp ⊢
      exact bind_stable (ihNud m ts hm) (fun p _ => ihLoop m rbp p.1 p.2 hm) hnp
    · cases ts with
      | nil => rfl
      | cons next ts' =>
        simp only [parseLoop_succ] at hnp ⊢
        split
        · rfl
        · rename_i hbp
          simp only [hbp, if_false] at hnp
          cases next <;> try rfl
          exact bind_stable (ihExpr m _ ts' hm)
            (fun p _ => bind_stable (fun _ => rfl) fun _ _ => ihLoop m rbp _ _ hm) hnp
    · cases ts with
      | nil => rfl
      | cons t ts' =>
        simp only [parseNud_succ] at hnp ⊢
        cases t <;> try rfl
        · exact bind_stable (ihAll m _ hm) (fun _ _ _ => rfl) hnp
        · exact bind_stable (ihExpr m 95 ts' hm) (fun _ _ _ => rfl) hnp

theorem parse_mono_aux : ∀ (f : Nat),
    (∀ f' ts e, f ≤ f' → parseAll f ts = .ok e → parseAll f' ts = .ok e) ∧
    (∀ f' rbp ts r, f ≤ f' → parseExpr f rbp ts = .ok r → parseExpr f' rbp ts = .ok r) ∧
    (∀ f' rbp left ts r, f ≤ f' → parseLoop f rbp left ts = .ok r → parseLoop f' rbp left ts = .ok r) ∧
    (∀ f' ts r, f ≤ f' → parseNud f ts = .ok r → parseNud f' ts = .ok r) := by
  intro f
  obtain ⟨hAll, hExpr, hLoop, hNud⟩ := parse_stable_aux f
  refine ⟨fun f' ts e hle h => ?_, fun f' rbp ts r hle h => ?_, fun f' rbp left ts r hle h => ?_,
    fun f' ts r hle h => ?_⟩
  · rw [hAll f' ts hle (h ▸ NP.ok _), h]
  · rw [hExpr f' rbp ts hle (h ▸ NP.ok _), h]
  · rw [hLoop f' rbp left ts hle (h ▸ NP.ok _), h]
  · rw [hNud f' ts hle (h ▸ NP.ok _), h]

theorem parseExpr_mono {f f' : Nat} (h : f ≤ f') {rbp ts r} (hp : parseExpr f rbp ts = .ok r) :
    parseExpr f' rbp ts = .ok r := (parse_mono_aux f).2.1 f' rbp ts r h hp
theorem parseLoop_mono {f f' : Nat} (h : f ≤ f') {rbp left ts r} (hp : parseLoop f rbp left ts = .ok r) :
    parseLoop f' rbp left ts = .ok r := (parse_mono_aux f).2.2.1 f' rbp left ts r h hp
theorem parseNud_mono {f f' : Nat} (h : f ≤ f') {ts r} (hp : parseNud f ts = .ok r) :
    parseNud f' ts = .ok r := (parse_mono_aux f).2.2.2 f' ts r h hp
theorem parseAll_mono {f f' : Nat} (h : f ≤ f') {ts e} (hp : parseAll f ts = .ok e) :
    parseAll f' ts = .ok e := (parse_mono_aux f).1 f' ts e h hp

theorem Call.run_mono {c : Call} {f f' : Nat} {r : Expr × List Token} (h : f ≤ f')
    (hp : c.run f = .ok r) : c.run f' = .ok r := by
  cases c with
  | all ts =>
    obtain ⟨ha, hr⟩ := Call.run_all.mp hp
    exact Call.run_all.mpr ⟨parseAll_mono h ha, hr⟩
  | expr => exact parseExpr_mono h hp
  | loop => exact parseLoop_mono h hp
  | nud => exact parseNud_mono h hp

theorem Parses.complete {c : Call} {e : Expr} {rest : List Token} (h : Parses c e rest) :
    ∃ f, c.run f = .ok (e, rest) := by
  induction h with
  | all _ ih =>
    obtain ⟨f, hf⟩ := ih
    exact ⟨f + 1, Call.run_all.mpr ⟨by simp only [Call.run] at hf; simp [parseAll_succ, hf, ok_bind], rfl⟩⟩
  | expr _ _ ih1 ih2 =>
    obtain ⟨f1, h1⟩ := ih1; obtain ⟨f2, h2⟩ := ih2
    have h1 := Call.run_mono (Nat.le_max_left f1 f2) h1
    have h2 := Call.run_mono (Nat.le_max_right f1 f2) h2
    exact ⟨max f1 f2 + 1, by simp only [Call.run] at *; simp only [parseExpr_succ, h1, ok_bind, h2]⟩
  | @stop rbp l ts hs =>
    refine ⟨1, ?_⟩
    cases ts with
    | nil => rfl
    | cons t ts => have : rbp ≥ t.bp := hs t rfl; simp [Call.run, parseLoop_succ, this]
  | led hbp _ hchk _ ih1 ih2 =>
    obtain ⟨f1, h1⟩ := ih1; obtain ⟨f2, h2⟩ := ih2
    have h1 := Call.run_mono (Nat.le_max_left f1 f2) h1
    have h2 := Call.run_mono (Nat.le_max_right f1 f2) h2
    exact ⟨max f1 f2 + 1, by
      simp only [Call.run] at *; simp only [parseLoop_succ, Nat.not_le.mpr hbp, if_false, h1, ok_bind, hchk, h2]⟩
  | paren _ ih =>
    obtain ⟨f, hf⟩ := ih
    exact ⟨f + 1, by simp only [Call.run, parseNud_succ, (Call.run_all.mp hf).1, ok_bind]⟩
  | not _ hn ih =>
    obtain ⟨f, hf⟩ := ih
    exact ⟨f + 1, by simp only [Call.run] at hf ⊢; simp only [parseNud_succ, hf, ok_bind, hn, if_true]⟩
  | float | ident | int => exact ⟨1, rfl⟩
  | cast hp | matchAll hp | matchOf hp => exact ⟨1, by simp only [Call.run, parseNud_succ, hp, ok_bind]⟩

/-- `parse` hands out fuel `10·|ts| + 10`; by `parse_total_aux` that is never used up, and by
    `parse_stable_aux` more would not change the result. -/
theorem parse_iff {ts : List Token} {e : Expr} : parse ts = .ok e ↔ Parses (.all ts) e [] := by
  refine ⟨Parses.of_parseAll, fun h => ?_⟩
  obtain ⟨f, hf⟩ := h.complete
  have hf := (Call.run_all.mp (Call.run_mono (Nat.le_max_left f (parseFuel ts)) hf)).1
  rw [← hf]
  exact ((parse_stable_aux _).1 _ ts (Nat.le_max_right ..) (parse_no_panic ts)).symm

end Tau
