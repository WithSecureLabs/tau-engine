import Tau.Proofs.Solver
/-
  `shake_0` as a relation without fuel and flag (`Shake0G`, read off `shake0F` in `shake0F_graph`),
  and, by induction over it: on `shakeOK` the pass is exact (`Exact0`, through the simulation `Sim` of
  the solver's Match and Nested arms) and stays in its class (`Class0`).
-/
namespace Tau

/-- The lists the flattening arms of shake_0 put in place of an operand `x` of a chain of `op`. -/
inductive Flat (op : BoolSym) : Expr → List Expr → Prop
  | self (x : Expr) : Flat op x [x]
  | group (es : List Expr) : Flat op (.group op es) es
  | bin (x y : Expr) : Flat op (.bin x op y) [x, y]

theorem binRegroup_flat {l r : Expr} {op sym : BoolSym} {xs : List Expr}
    (h : binRegroup l op r = some (sym, xs)) :
    sym = op ∧ (op = .and ∨ op = .or) ∧ ∃ pl pr, Flat op l pl ∧ Flat op r pr ∧ xs = pl ++ pr := by
  revert h
  fun_cases binRegroup l op r <;> intro h <;> cases h
  · exact ⟨rfl, .inl rfl, _, _, .group _, .group _, rfl⟩
  · exact ⟨rfl, .inl rfl, _, _, .group _, .self _, rfl⟩
  · exact ⟨rfl, .inl rfl, _, _, .self _, .group _, rfl⟩
  · exact ⟨rfl, .inr rfl, _, _, .group _, .group _, rfl⟩
  · exact ⟨rfl, .inr rfl, _, _, .group _, .self _, rfl⟩
  · exact ⟨rfl, .inr rfl, _, _, .self _, .group _, rfl⟩
  · exact ⟨rfl, .inl rfl, _, _, .bin _ _, .self _, rfl⟩
  · exact ⟨rfl, .inl rfl, _, _, .self _, .bin _ _, rfl⟩
  · exact ⟨rfl, .inr rfl, _, _, .bin _ _, .self _, rfl⟩
  · exact ⟨rfl, .inr rfl, _, _, .self _, .bin _ _, rfl⟩

/-- The steps of `shake_0`; `dn` = a double negation may be eliminated.  `group` takes the map `f`
    of the members, not a list related to them: the inductive stays non-nested, so `induction` works. -/
inductive Shake0G (dn : Bool) : Expr → Expr → Prop
  | refl (e : Expr) : Shake0G dn e e
  | unwrap (op : BoolSym) {a a' : Expr} (h : Shake0G dn a a') : Shake0G dn (.group op [a]) a'
  | group (op : BoolSym) (es : List Expr) (f : Expr → Expr) (h1 : es.length ≠ 1)
      (h : ∀ e ∈ es, Shake0G dn e (f e)) : Shake0G dn (.group op es) (.group op (es.map f))
  | bin (op : BoolSym) {l r l' r' : Expr} (hl : Shake0G dn l l') (hr : Shake0G dn r r') :
      Shake0G dn (.bin l op r) (.bin l' op r')
  | regroup {op : BoolSym} {l r l' r' g : Expr} {pl pr : List Expr} (hop : op = .and ∨ op = .or)
      (hb : Shake0G dn (.bin l op r) (.bin l' op r')) (fl : Flat op l' pl) (fr : Flat op r' pr)
      (hg : Shake0G dn (.group op (pl ++ pr)) g) : Shake0G dn (.bin l op r) g
  | «match» (k : MatchK) {x x' : Expr} (h : Shake0G dn x x') : Shake0G dn (.match k x) (.match k x')
  | negate {x x' : Expr} (h : Shake0G dn x x') : Shake0G dn (.negate x) (.negate x')
  | dneg {x y z : Expr} (hdn : dn = true) (hx : Shake0G dn x (.negate y)) (hy : Shake0G dn y z) :
      Shake0G dn (.negate x) z
  | nested (f : Str) {x x' : Expr} (h : Shake0G dn x x') : Shake0G dn (.nested f x) (.nested f x')

theorem unNeg_some {x y : Expr} : unNeg x = some y → x = .negate y := by
  fun_cases unNeg x <;> intro h <;> cases h
  rfl

/-- `shake0F` takes steps of `Shake0G dn` provided it reports an eliminated double negation only if `dn`. -/
theorem shake0F_graph (dn : Bool) : ∀ (fuel : Nat) (e : Expr),
    ((shake0F fuel e).2 = true → dn = true) → Shake0G dn e (shake0F fuel e).1 := by
  intro fuel
  induction fuel with
  | zero => intro e _; exact .refl e
  | succ n ih =>
    intro e hfl
    cases e with
    | group op es =>
      simp only [shake0F, List.map_map, List.any_map, List.any_eq_true] at hfl ⊢
      have hm : ∀ y ∈ es, Shake0G dn y (shake0F n y).1 := fun y hy => ih y fun h => hfl ⟨y, hy, h⟩
      rcases unwrapGroup_cases op (es.map (Prod.fst ∘ shake0F n)) with ⟨z, hz, hu⟩ | ⟨h1, hu⟩ <;> rw [hu]
      · obtain ⟨a, rfl, rfl⟩ := List.map_eq_singleton_iff.mp hz
        exact .unwrap op (hm a (by simp))
      · exact .group op es _ (by rwa [List.length_map] at h1) hm
    | bin l op r =>
      dsimp only [shake0F] at hfl ⊢
      cases hbr : binRegroup (shake0F n l).1 op (shake0F n r).1 with
      | none =>
        simp only [hbr, Bool.or_eq_true] at hfl ⊢
        exact .bin op (ih l fun h => hfl (.inl h)) (ih r fun h => hfl (.inr h))
      | some p =>
        obtain ⟨sym, xs⟩ := p
        simp only [hbr, Bool.or_eq_true] at hfl ⊢
        obtain ⟨rfl, hop, pl, pr, fl, fr, rfl⟩ := binRegroup_flat hbr
        exact .regroup hop (.bin _ (ih l fun h => hfl (.inl (.inl h))) (ih r fun h => hfl (.inl (.inr h)))) fl fr
          (ih _ fun h => hfl (.inr h))
    | «match» k x => exact .match k (ih x hfl)
    | negate x =>
      dsimp only [shake0F] at hfl ⊢
      cases hu : unNeg (shake0F n x).1 with
      | none => simp only [hu] at hfl ⊢; exact .negate (ih x hfl)
      | some inner =>
        simp only [hu] at hfl ⊢
        have hx := ih x fun _ => hfl trivial
        rw [unNeg_some hu] at hx
        exact .dneg (hfl trivial) hx (ih inner fun _ => hfl trivial)
    | nested f x => exact .nested f (ih x hfl)
    | _ => exact .refl _
/-- What may stand directly under an all()/of() for shake_0 to be exact: anything except a group of
    fewer than two members (it would be unwrapped and the count would change) and a chain of
    `and`/`or` (it would be flattened into a group, which all()/of() count differently). -/
def matchChildOK : Expr → Bool
  | .group _ es => decide (2 ≤ es.length)
  | .bin _ .and _ => false
  | .bin _ .or _ => false
  | _ => true

/-- Could shake_0 turn this into an all()/of() node (by unwrapping one-member groups)? -/
def mayBecomeMatch : Expr → Bool
  | .group _ [x] => mayBecomeMatch x
  | .match _ _ => true
  | _ => false

/-- What may stand directly under a nested mapping: not a one-member group around an all()/of()
    (unwrapping it would expose the solver's special `Nested(Match::All(..))` arms). -/
def nestedChildOK : Expr → Bool
  | .group _ [x] => !mayBecomeMatch x
  | _ => true

def boolOp : BoolSym → Bool
  | .and | .or => true
  | _ => false

mutual
/-- The trees on which shake_0 is exact provided it eliminates no double negation.  Everything
    `parse_identifier` / the Pratt parser build satisfies this. -/
def shakeOK : Expr → Bool
  | .group op es => boolOp op && !es.isEmpty && shakeOKL es
  | .bin l .and r => shakeOK l && shakeOK r
  | .bin l .or r => shakeOK l && shakeOK r
  | .bin l _ r => isLeafE l && isLeafE r
  | .match _ x => matchChildOK x && shakeOK x
  | .negate x => shakeOK x
  | .nested _ x => nestedChildOK x && shakeOK x
  | _ => true
def shakeOKL : List Expr → Bool
  | [] => true
  | e :: es => shakeOK e && shakeOKL es
end

theorem shakeOKL_iff (l : List Expr) : shakeOKL l = true ↔ ∀ x ∈ l, shakeOK x = true :=
  allL_iff rfl (fun _ _ => rfl) l

theorem shake0F_leaf (fuel : Nat) (e : Expr) (h : isLeafE e = true) : shake0F fuel e = (e, false) := by
  cases fuel with
  | zero => rfl
  | succ n =>
    cases e with
    | bool | cast | field | float | int | null => rfl
    | _ => cases h

/-- Negations and nested mappings: operands `Match` has no arm of its own for, and which shake_0
    maps to an operand of the same kind. -/
def genericCls : Expr → Bool
  | .negate _ | .nested _ _ => true
  | _ => false

theorem genericCls_spec {x : Expr} (hx : genericCls x = true) :
    matchOwnArm x = false ∧ matchChildOK x = true ∧ nestedSpecial x = false ∧
      ∀ k, nestedSpecial (.match k x) = false := by
  cases x with
  | negate | nested => exact ⟨rfl, rfl, rfl, fun k => by cases k <;> rfl⟩
  | _ => cases hx

/-- `x'` is dispatched by the solver's `Match` and `Nested` arms exactly like `x`, with equal
    values for the pieces.  `group` asks for equal lists of member values: the form in which those
    arms consume the members (`andG_eq_map`, `listG_eq_map`). -/
inductive Sim (E : RegexEngine) (K : IdentK) : Expr → Expr → Prop
  | refl (x : Expr) : Sim E K x x
  | group (op : BoolSym) (es es' : List Expr) (h2 : 2 ≤ es.length)
      (h : ∀ d, es'.map (solveG E K d) = es.map (solveG E K d)) : Sim E K (.group op es) (.group op es')
  | «match» (k : MatchK) (y y' : Expr) (h : Sim E K y y') : Sim E K (.match k y) (.match k y')
  | gen (x x' : Expr) (hx : genericCls x = true) (hx' : genericCls x' = true)
      (h : ∀ d, solveG E K d x' = solveG E K d x) : Sim E K x x'

theorem match_generic (E : RegexEngine) (K : IdentK) (d : Doc) (k : MatchK) (x : Expr)
    (hx : genericCls x = true) :
    solveG E K d (.match k x) = (match k with | .all => solveG E K d x | .of c => ofSingle c (solveG E K d x)) :=
  match_ft E K d k x (genericCls_spec hx).1

theorem sim_match (E : RegexEngine) (K : IdentK) (x x' : Expr) (h : Sim E K x x') :
    ∀ k d, solveG E K d (.match k x') = solveG E K d (.match k x) := by
  induction h with
  | refl x => intros; rfl
  | group op es es' h2 h => exact fun k d => group_congr E K (some k) op (h d)
  | «match» k2 y y' _ ih =>
    intro k d
    rw [match_match, match_match, ih k2 d]
  | gen x x' hx hx' h =>
    intro k d
    rw [match_generic E K d k x hx, match_generic E K d k x' hx', h d]

theorem sim_value (E : RegexEngine) (K : IdentK) (x x' : Expr) (h : Sim E K x x') :
    ∀ d, solveG E K d x' = solveG E K d x := by
  cases h with
  | refl => intros; rfl
  | group op es es' h2 h => exact group_congrL E K op es es' h
  | «match» k y y' h => intro d; exact sim_match E K y y' h k d
  | gen _ _ _ _ h => exact h

theorem sim_matchChildOK (E : RegexEngine) (K : IdentK) (x x' : Expr) (h : Sim E K x x')
    (hx : matchChildOK x = true) : matchChildOK x' = true := by
  cases h with
  | refl => exact hx
  -- any document will do to compare the lengths
  | group op es es' h2 h => exact decide_eq_true (map_len (h (.pass none)) ▸ h2)
  | «match» => rfl
  | gen _ _ _ hx' _ => exact (genericCls_spec hx').2.1

theorem nestedSpecial_match_group (k : MatchK) (op : BoolSym) (es es' : List Expr) :
    nestedSpecial (.match k (.group op es')) = nestedSpecial (.match k (.group op es)) := by
  cases k <;> cases op <;> rfl

theorem sim_special {E : RegexEngine} {K : IdentK} {x x' : Expr} (h : Sim E K x x') :
    nestedSpecial x' = nestedSpecial x := by
  cases h with
  | refl => rfl
  | group => rfl
  | «match» k y y' hy =>
    cases hy with
    | refl => rfl
    | group op => exact nestedSpecial_match_group k op _ _
    | «match» => cases k <;> rfl
    | gen _ _ h1 h2 => rw [(genericCls_spec h1).2.2.2, (genericCls_spec h2).2.2.2]
  | gen _ _ h1 h2 => rw [(genericCls_spec h1).2.2.1, (genericCls_spec h2).2.2.1]

/-- Of the two children with an arm of their own, all() over a matrix is related by `Sim` to itself
    only; all() over an or-group is evaluated member by member, which the equal lists carry. -/
theorem sim_nested (E : RegexEngine) (K : IdentK) (x x' : Expr) (h : Sim E K x x') :
    ∀ f d, solveG E K d (.nested f x') = solveG E K d (.nested f x) := by
  intro f
  cases hs : nestedSpecial x with
  | false => exact nested_generic_congr E K f x x' hs ((sim_special h).trans hs) (sim_value E K x x' h)
  | true =>
    cases h with
    | refl => intro d; rfl
    | group => cases hs
    | gen _ _ hx => rw [(genericCls_spec hx).2.2.1] at hs; cases hs
    | «match» k y y' hy =>
      cases hy with
      | refl => intro d; rfl
      | «match» => cases k <;> cases hs
      | gen _ _ hy => rw [(genericCls_spec hy).2.2.2 k] at hs; cases hs
      | group op es es' h2 hm =>
        -- by `hs` an or-group under all(): on an object its and-loop, on an array `nestedAllOrG`
        obtain ⟨_, he⟩ | ⟨_, _, he⟩ := nestedSpecial_cases _ hs <;> cases he
        intro d
        rw [solveG_nested, solveG_nested, funext fun k => group_congr E K (some .all) .or (hm (.obj k))]
        exact congrArg (nestedWith _ · _) (funext fun a => nestedAllOrG_congrL E K _ es es' hm)

theorem boolOp_iff {op : BoolSym} : boolOp op = true ↔ op = .and ∨ op = .or := by
  cases op <;> simp [boolOp]

theorem shakeOK_group (op : BoolSym) (xs : List Expr) :
    shakeOK (.group op xs) = true ↔ (op = .and ∨ op = .or) ∧ xs ≠ [] ∧ ∀ x ∈ xs, shakeOK x = true := by
  show (boolOp op && !xs.isEmpty && shakeOKL xs) = true ↔ _
  rw [Bool.and_eq_true, Bool.and_eq_true, boolOp_iff, shakeOKL_iff, Bool.not_eq_true',
    List.isEmpty_eq_false_iff, and_assoc]

section
variable (E : RegexEngine) (K : IdentK) {op : BoolSym} (hop : op = .and ∨ op = .or)
include hop

theorem shakeOK_bin (l r : Expr) : shakeOK (.bin l op r) = (shakeOK l && shakeOK r) := by
  rcases hop with rfl | rfl <;> rfl

theorem matchChildOK_bin (l r : Expr) : matchChildOK (.bin l op r) = false := by
  rcases hop with rfl | rfl <;> rfl

theorem flat_value {x : Expr} {p : List Expr} (h : Flat op x p) (d : Doc) :
    solveG E K d (.group op p) = solveG E K d x := by
  cases h with
  | self => exact (unwrapGroup_solve E K d op [x] hop).symm
  | group => rfl
  | bin a b =>
    rcases hop with rfl | rfl
    · rw [group_and_value, bin_and_value, binAnd_eq]; rfl
    · rw [group_or_value, bin_or_value, binOr_eq]; rfl

theorem flat_shakeOK {x : Expr} {p : List Expr} (h : Flat op x p) (hx : shakeOK x = true) :
    p ≠ [] ∧ ∀ y ∈ p, shakeOK y = true := by
  cases h with
  | self => exact ⟨List.cons_ne_nil _ _, List.forall_mem_singleton.mpr hx⟩
  | group => exact ((shakeOK_group _ _).mp hx).2
  | bin a b =>
    rw [shakeOK_bin hop, Bool.and_eq_true] at hx
    exact ⟨List.cons_ne_nil _ _, List.forall_mem_cons.mpr ⟨hx.1, List.forall_mem_singleton.mpr hx.2⟩⟩

theorem regroup_value {l r : Expr} {pl pr : List Expr} (fl : Flat op l pl) (fr : Flat op r pr) (d : Doc) :
    solveG E K d (.group op (pl ++ pr)) = solveG E K d (.bin l op r) := by
  rw [group_append_value E K hop]
  exact bin_congr E K hop (flat_value E K hop fl d) (flat_value E K hop fr d)

theorem regroup_shakeOK {l r : Expr} {pl pr : List Expr} (fl : Flat op l pl) (fr : Flat op r pr)
    (hb : shakeOK (.bin l op r) = true) :
    shakeOK (.group op (pl ++ pr)) = true ∧ 2 ≤ (pl ++ pr).length := by
  rw [shakeOK_bin hop, Bool.and_eq_true] at hb
  obtain ⟨n1, h1⟩ := flat_shakeOK hop fl hb.1
  obtain ⟨n2, h2⟩ := flat_shakeOK hop fr hb.2
  refine ⟨(shakeOK_group _ _).mpr ⟨hop, fun h => n1 (List.append_eq_nil_iff.mp h).1,
    List.forall_mem_append.mpr ⟨h1, h2⟩⟩, ?_⟩
  have := List.length_pos_iff.mpr n1
  have := List.length_pos_iff.mpr n2
  rw [List.length_append]; omega

end

theorem binRegroup_spec (E : RegexEngine) (K : IdentK) (l r : Expr) (op sym : BoolSym) (xs : List Expr)
    (h : binRegroup l op r = some (sym, xs)) :
    boolOp sym = true ∧ sym = op ∧
    (∀ d, solveG E K d (.group sym xs) = solveG E K d (.bin l op r)) ∧
    (shakeOK l = true → shakeOK r = true → shakeOKL xs = true ∧ 2 ≤ xs.length) := by
  obtain ⟨rfl, hop, pl, pr, fl, fr, rfl⟩ := binRegroup_flat h
  refine ⟨boolOp_iff.mpr hop, rfl, regroup_value E K hop fl fr, fun hl hr => ?_⟩
  obtain ⟨hg, hn⟩ := regroup_shakeOK hop fl fr (by rw [shakeOK_bin hop, hl, hr]; rfl)
  exact ⟨(shakeOKL_iff _).mpr ((shakeOK_group _ _).mp hg).2.2, hn⟩

theorem binRegroup_cmp (l r : Expr) (op : BoolSym) (h : boolOp op = false) : binRegroup l op r = none := by
  cases hb : binRegroup l op r with
  | none => rfl
  | some p =>
    rw [boolOp_iff.mpr (binRegroup_flat (sym := p.1) (xs := p.2) hb).2.1] at h
    cases h

theorem special_is_match (x : Expr) (h : nestedSpecial x = true) : mayBecomeMatch x = true := by
  obtain ⟨_, rfl⟩ | ⟨_, _, rfl⟩ := nestedSpecial_cases x h <;> rfl

/-- Of a group both ask whether it has one member that may become an all()/of(). -/
theorem nestedChildOK_group (op : BoolSym) (es : List Expr) :
    nestedChildOK (.group op es) = !mayBecomeMatch (.group op es) := by
  match es with
  | [] | [_] | _ :: _ :: _ => rfl

theorem notMBM_ok (e : Expr) (h : mayBecomeMatch e = false) :
    nestedSpecial e = false ∧ nestedChildOK e = true := by
  refine ⟨Bool.eq_false_iff.mpr fun hs => Bool.false_ne_true (h.symm.trans (special_is_match e hs)), ?_⟩
  cases e with
  | group op es => rw [nestedChildOK_group, h]; rfl
  | _ => rfl

theorem mbm_group2 (op : BoolSym) (es : List Expr) (h : mayBecomeMatch (.group op es) = true) :
    ∃ y, es = [y] ∧ mayBecomeMatch y = true := by
  match es, h with
  | [y], h => exact ⟨y, rfl, h⟩
  | [], h | _ :: _ :: _, h => cases h

theorem mbm_unwrapGroup (op : BoolSym) (es : List Expr) (h : mayBecomeMatch (unwrapGroup op es) = true) :
    ∃ z, es = [z] ∧ mayBecomeMatch z = true := by
  rcases unwrapGroup_cases op es with ⟨z, hz, hu⟩ | ⟨_, hu⟩ <;> rw [hu] at h
  · exact ⟨z, hz, h⟩
  · exact mbm_group2 _ _ h

theorem match_of_mbm_childOK {x : Expr} (h1 : nestedChildOK x = true) (hm : mayBecomeMatch x = true) :
    ∃ k y, x = .match k y := by
  cases x with
  | «match» k y => exact ⟨k, y, rfl⟩
  | group op es => rw [nestedChildOK_group, hm] at h1; cases h1
  | _ => cases hm

theorem mayBecomeMatch_group (op : BoolSym) {xs : List Expr} (h : 2 ≤ xs.length) :
    mayBecomeMatch (.group op xs) = false :=
  Bool.eq_false_iff.mpr fun hm => by obtain ⟨_, rfl, _⟩ := mbm_group2 op xs hm; simp at h

theorem leaf_shake0G {dn : Bool} {e e' : Expr} (h : Shake0G dn e e') (hl : isLeafE e = true) : e' = e := by
  cases h with
  | refl => rfl
  | _ => cases hl

theorem shake0G_cmp {dn : Bool} {op : BoolSym} {l r l' r' : Expr} (h : op ≠ .and ∧ op ≠ .or)
    (hok : shakeOK (.bin l op r) = true) (hl : Shake0G dn l l') (hr : Shake0G dn r r') : l' = l ∧ r' = r := by
  have hlr : isLeafE l = true ∧ isLeafE r = true := by
    cases op with
    | and => exact absurd rfl h.1
    | or => exact absurd rfl h.2
    | _ => exact Bool.and_eq_true_iff.mp hok
  exact ⟨leaf_shake0G hl hlr.1, leaf_shake0G hr hlr.2⟩

/-- What `sim_matchChildOK` and `sim_special` give from a `Sim`, without an engine. -/
theorem shake0G_matchChild {x x' : Expr} (h : Shake0G false x x') (hm : matchChildOK x = true) :
    matchChildOK x' = true ∧ ∀ k, nestedSpecial (.match k x') = nestedSpecial (.match k x) := by
  cases h with
  | refl => exact ⟨hm, fun _ => rfl⟩
  | unwrap => cases hm
  | group op es f =>
    exact ⟨decide_eq_true ((List.length_map f).symm ▸ of_decide_eq_true hm),
      fun k => nestedSpecial_match_group k op _ _⟩
  -- `matchChildOK` looks at the operator of a `bin` only
  | bin op => exact ⟨by cases op <;> exact hm, fun k => by cases k <;> rfl⟩
  | regroup hop => rw [matchChildOK_bin hop] at hm; cases hm
  | dneg hdn => cases hdn
  | _ => exact ⟨rfl, fun k => by cases k <;> rfl⟩

/-- What a step from `e` (in `shakeOK`) to `e'` keeps of the shape: the class, and what the solver's
    `Nested` arm and the unwrapping of one-member groups look at.  `special` asks `nestedChildOK e`:
    unwrapping a one-member group around an all() makes a child with an arm of its own. -/
structure Class0 (e e' : Expr) : Prop where
  ok : shakeOK e' = true
  nchild : nestedChildOK e = true → nestedChildOK e' = true
  mbm : mayBecomeMatch e = false → mayBecomeMatch e' = false
  special : nestedChildOK e = true → nestedSpecial e = false → nestedSpecial e' = false

theorem Class0.refl {e : Expr} (hok : shakeOK e = true) : Class0 e e :=
  { ok := hok, nchild := id, mbm := id, special := fun _ h => h }

/-- The class of every step but `refl` and `match`: where `e` may stand under a nested mapping, `e'`
    cannot become an all()/of(). -/
theorem Class0.ofNotMBM {e e' : Expr} (hok : shakeOK e' = true)
    (h : nestedChildOK e = true → mayBecomeMatch e' = false) : Class0 e e' :=
  { ok := hok, nchild := fun hn => (notMBM_ok _ (h hn)).2, mbm := fun hm => h (notMBM_ok _ hm).2,
    special := fun hn _ => (notMBM_ok _ (h hn)).1 }

/-- `e'` stands for `e` at an engine: at the top, directly under an all()/of() (where the solver
    looks at the operand's shape, hence `Sim`), and directly under a nested mapping. -/
structure Exact0 (E : RegexEngine) (K : IdentK) (e e' : Expr) : Prop where
  value : ∀ d, solveG E K d e' = solveG E K d e
  sim : matchChildOK e = true → Sim E K e e'
  nested : nestedChildOK e = true → ∀ f d, solveG E K d (.nested f e') = solveG E K d (.nested f e)

theorem Exact0.ofSim {E : RegexEngine} {K : IdentK} {e e' : Expr} (h : Sim E K e e') : Exact0 E K e e' :=
  ⟨sim_value E K e e' h, fun _ => h, fun _ => sim_nested E K e e' h⟩

/-- A step from an operand that all()/of() refuse and `Nested` has no arm for: class and value are enough. -/
theorem Class0.withValue {e e' : Expr} (hc : Class0 e e') (hmc : matchChildOK e = false)
    (hs : nestedSpecial e = false) (hV : ∀ E K d, solveG E K d e' = solveG E K d e) :
    Class0 e e' ∧ ∀ E K, Exact0 E K e e' :=
  ⟨hc, fun E K => ⟨hV E K, fun h => (by rw [hmc] at h; cases h),
    fun hn f => nested_generic_congr E K f _ _ hs (hc.special hn hs) (hV E K)⟩⟩

/-- Class and value in one induction: the value of a step needs the class of the step and of the
    steps below it. -/
theorem shake0G_spec {e e' : Expr} (h : Shake0G false e e') (hok : shakeOK e = true) :
    Class0 e e' ∧ ∀ E K, Exact0 E K e e' := by
  induction h with
  | refl e => exact ⟨.refl hok, fun _ _ => .ofSim (.refl e)⟩
  | @unwrap op a a' _ ih =>
    obtain ⟨hop, _, hm⟩ := (shakeOK_group op [a]).mp hok
    obtain ⟨ca, va⟩ := ih (hm a List.mem_cons_self)
    -- `nestedChildOK (.group op [a])` is `!mayBecomeMatch a`
    refine Class0.withValue (.ofNotMBM ca.ok fun hn => ca.mbm ((Bool.not_eq_true' _).mp hn))
      rfl rfl fun E K d => ?_
    rw [(va E K).value d]
    exact unwrapGroup_solve E K d op [a] hop
  | group op es f h1 _ ih =>
    obtain ⟨hop, hne, hm⟩ := (shakeOK_group op es).mp hok
    have h2 : 2 ≤ es.length := by have := List.length_pos_iff.mpr hne; omega
    have h2' : 2 ≤ (es.map f).length := by rwa [List.length_map]
    refine ⟨.ofNotMBM ((shakeOK_group _ _).mpr ⟨hop, mt List.map_eq_nil_iff.mp hne, List.forall_mem_map.mpr
      fun y hy => (ih y hy (hm y hy)).1.ok⟩) fun _ => mayBecomeMatch_group op h2',
      fun E K => .ofSim (.group op _ _ h2 fun d => ?_)⟩
    rw [List.map_map]
    exact List.map_congr_left fun y hy => ((ih y hy (hm y hy)).2 E K).value d
  | @bin op l r l' r' hl hr ihl ihr =>
    by_cases hop : op = .and ∨ op = .or
    · rw [shakeOK_bin hop, Bool.and_eq_true] at hok
      obtain ⟨cl, vl⟩ := ihl hok.1
      obtain ⟨cr, vr⟩ := ihr hok.2
      exact Class0.withValue (.ofNotMBM (by rw [shakeOK_bin hop, cl.ok, cr.ok]; rfl) fun _ => rfl)
        (matchChildOK_bin hop l r) rfl fun E K d => bin_congr E K hop ((vl E K).value d) ((vr E K).value d)
    · obtain ⟨rfl, rfl⟩ := shake0G_cmp (not_or.mp hop) hok hl hr
      exact ⟨.refl hok, fun _ _ => .ofSim (.refl _)⟩
  | @regroup op l r l' r' g pl pr hop _ fl fr _ ihb ihg =>
    obtain ⟨cb, vb⟩ := ihb hok
    obtain ⟨hxs, hlen⟩ := regroup_shakeOK hop fl fr cb.ok
    obtain ⟨cg, vg⟩ := ihg hxs
    refine Class0.withValue (.ofNotMBM cg.ok fun _ => cg.mbm (mayBecomeMatch_group op hlen))
      (matchChildOK_bin hop l r) rfl fun E K d => ?_
    rw [(vg E K).value d, regroup_value E K hop fl fr d, (vb E K).value d]
  | @«match» k x x' hx ih =>
    have hok := Bool.and_eq_true_iff.mp hok
    obtain ⟨cx, vx⟩ := ih hok.2
    obtain ⟨hc, hsp⟩ := shake0G_matchChild hx hok.1
    exact ⟨{ ok := Bool.and_eq_true_iff.mpr ⟨hc, cx.ok⟩, nchild := fun _ => rfl, mbm := fun h => (by cases h),
             special := fun _ h => (hsp k).trans h },
      fun E K => .ofSim (.match k _ _ ((vx E K).sim hok.1))⟩
  | @negate x x' _ ih =>
    obtain ⟨cx, vx⟩ := ih hok
    exact ⟨.ofNotMBM cx.ok fun _ => rfl,
      fun E K => .ofSim (.gen _ _ rfl rfl fun d => congrArg Tri.not ((vx E K).value d))⟩
  | dneg hdn => cases hdn
  | @nested f x x' _ ih =>
    have hok := Bool.and_eq_true_iff.mp hok
    obtain ⟨cx, vx⟩ := ih hok.2
    exact ⟨.ofNotMBM (Bool.and_eq_true_iff.mpr ⟨cx.nchild hok.1, cx.ok⟩) fun _ => rfl,
      fun E K => .ofSim (.gen _ _ rfl rfl ((vx E K).nested hok.1 f))⟩

theorem shake0_graph {fuel : Nat} {e : Expr} (hfl : (shake0F fuel e).2 = false) :
    Shake0G false e (shake0 fuel e) :=
  shake0F_graph false fuel e fun h => (Bool.false_ne_true (hfl.symm.trans h)).elim

theorem shake0G_class {e e' : Expr} (h : Shake0G false e e') (hok : shakeOK e = true) : Class0 e e' :=
  (shake0G_spec h hok).1

/-- **shake_0 is exact** on every tree in `shakeOK` on which it eliminates no double negation. -/
theorem shake0_sound (E : RegexEngine) (K : IdentK) (fuel : Nat) (e : Expr) (hok : shakeOK e = true)
    (hfl : (shake0F fuel e).2 = false) (d : Doc) :
    solveG E K d (shake0 fuel e) = solveG E K d e :=
  ((shake0G_spec (shake0_graph hfl) hok).2 E K).value d

theorem shake0_shakeOK (fuel : Nat) (e : Expr) (hok : shakeOK e = true)
    (hfl : (shake0F fuel e).2 = false) : shakeOK (shake0 fuel e) = true :=
  (shake0G_class (shake0_graph hfl) hok).ok

end Tau
