import Tau.Optimiser
/-
  The two list operations the optimiser's grouping is made of: the stable insertion sort and the
  insertion into a key-ordered association list (the model of `BTreeMap` grouping), whose key
  comparisons `strCmp` / `keyCmp` answer `.eq` only on equal keys; and `eraseDups` against `Nodup`.
-/
namespace Tau

theorem insertSorted_perm {α} (le : α → α → Bool) (x : α) (l : List α) :
    (insertSorted le x l).Perm (x :: l) := by
  induction l with
  | nil => exact List.Perm.refl _
  | cons y ys ih =>
    simp only [insertSorted]
    split
    · exact (List.Perm.cons y ih).trans (List.Perm.swap x y ys)
    · exact List.Perm.refl _

theorem stableSort_perm {α} (le : α → α → Bool) (l : List α) : (stableSort le l).Perm l := by
  unfold stableSort
  have : ∀ (acc : List α), (l.foldl (fun acc x => insertSorted le x acc) acc).Perm (l.reverse ++ acc) := by
    induction l with
    | nil => intro acc; exact List.Perm.refl _
    | cons x xs ih =>
      intro acc
      simp only [List.foldl_cons, List.reverse_cons, List.append_assoc, List.singleton_append]
      exact (ih _).trans ((insertSorted_perm le x acc).append_left _)
  have h := this []
  simp only [List.append_nil] at h
  exact h.trans (List.reverse_perm l)

theorem mem_stableSort {α} (le : α → α → Bool) (l : List α) (x : α) :
    x ∈ stableSort le l ↔ x ∈ l := (stableSort_perm le l).mem_iff

theorem eraseDups_length {α} [BEq α] [LawfulBEq α] (l : List α) :
    l.eraseDups.length ≤ l.length ∧ (l.eraseDups.length = l.length → l.Nodup) := by
  induction hn : l.length using Nat.strongRecOn generalizing l with
  | _ n ih =>
    subst hn
    cases l with
    | nil => exact ⟨Nat.le_refl _, fun _ => List.nodup_nil⟩
    | cons a as =>
      have h1 := List.length_filter_le (fun b => !b == a) as
      have h2 := (ih _ (Nat.lt_succ_of_le h1) (as.filter fun b => !b == a) rfl).1
      rw [List.eraseDups_cons]
      refine ⟨Nat.succ_le_succ (Nat.le_trans h2 h1), fun h => ?_⟩
      -- nothing was filtered out, so `a` does not occur in `as`
      have hf := List.length_filter_eq_length_iff.mp (Nat.le_antisymm h1 (Nat.succ.inj h ▸ h2))
      rw [List.filter_eq_self.mpr hf] at h
      exact List.nodup_cons.mpr ⟨fun hmem => by simpa using hf a hmem,
        (ih _ (Nat.lt_succ_self _) as rfl).2 (Nat.succ.inj h)⟩

theorem strCmp_eq : ∀ (a b : Str), strCmp a b = .eq → a = b := by
  intro a b
  -- arm 1: both empty; arm 6: equal heads; every other arm answers `.lt` or `.gt`
  fun_induction strCmp a b with
  | case1 => exact fun _ => rfl
  | case6 a as b bs h1 h2 ih =>
    intro h
    rw [Char.toNat_inj.mp (by omega : a.toNat = b.toNat), ih h]
  | _ => nofun

theorem boolCmp_eq (a b : Bool) (h : boolCmp a b = .eq) : a = b := by
  cases a <;> cases b <;> simp [boolCmp] at h <;> rfl

theorem keyCmp_eq (a b : Str × Bool × Bool) (h : keyCmp a b = .eq) : a = b := by
  unfold keyCmp at h
  split at h
  · next h1 =>
    split at h
    · next h2 => exact Prod.ext (strCmp_eq _ _ h1) (Prod.ext (boolCmp_eq _ _ h2) (boolCmp_eq _ _ h))
    · next hne => exact absurd h (hne ·)
  · next hne => exact absurd h (hne ·)

theorem groupInsert_ex {κ α} (cmp : κ → κ → Ordering) (hc : ∀ a b, cmp a b = .eq → a = b)
    (k : κ) (v : List α) (l : List (κ × List α)) (P : κ → α → Prop) :
    (∃ q ∈ groupInsert cmp k v l, ∃ m ∈ q.2, P q.1 m) ↔
      ((∃ m ∈ v, P k m) ∨ ∃ q ∈ l, ∃ m ∈ q.2, P q.1 m) := by
  -- the arms of `groupInsert`: the empty list, then `cmp k k'` = `.lt`, `.eq`, `.gt` at the head `(k', vs)`
  fun_induction groupInsert cmp k v l with
  | case1 | case2 => simp only [List.mem_cons, exists_eq_or_imp]
  | case3 k' vs rest heq =>
    cases hc _ _ heq
    simp only [List.mem_cons, exists_eq_or_imp]
    simp only [List.mem_append, or_and_right, exists_or]
    exact or_assoc.trans or_left_comm
  | case4 k' vs rest _ ih =>
    simp only [List.mem_cons, exists_eq_or_imp, ih]
    exact or_left_comm

theorem groupInsert_ne_nil {κ α} (cmp : κ → κ → Ordering) (k : κ) (v : List α) (l : List (κ × List α)) :
    groupInsert cmp k v l ≠ [] := by
  fun_cases groupInsert cmp k v l <;> exact List.cons_ne_nil _ _

theorem groupInsert_all {κ α} (cmp : κ → κ → Ordering) (hc : ∀ a b, cmp a b = .eq → a = b)
    (k : κ) (v : List α) (l : List (κ × List α)) (Q : κ → α → Prop) :
    (∀ q ∈ groupInsert cmp k v l, ∀ m ∈ q.2, Q q.1 m) ↔
      ((∀ m ∈ v, Q k m) ∧ ∀ q ∈ l, ∀ m ∈ q.2, Q q.1 m) := by
  -- "all are `Q`" is "none fails `Q`"
  have h := not_congr (groupInsert_ex cmp hc k v l fun a m => ¬Q a m)
  simpa only [not_or, not_exists, not_and, Classical.not_not] using h

theorem groupInsert_mem {κ α} (cmp : κ → κ → Ordering) (k : κ) (v : List α) (l : List (κ × List α))
    {q : κ × List α} (hq : q ∈ groupInsert cmp k v l) :
    q = (k, v) ∨ (∃ vs, (q.1, vs) ∈ l ∧ q.2 = vs ++ v) ∨ q ∈ l := by
  fun_induction groupInsert cmp k v l with
  | case1 => exact .inl (List.mem_singleton.mp hq)
  | case2 => exact (List.mem_cons.mp hq).imp_right .inr
  | case3 k' vs rest =>
    rcases List.mem_cons.mp hq with rfl | h
    · exact .inr (.inl ⟨vs, List.mem_cons_self, rfl⟩)
    · exact .inr (.inr (List.mem_cons_of_mem _ h))
  | case4 k' vs rest _ ih =>
    rcases List.mem_cons.mp hq with rfl | h
    · exact .inr (.inr List.mem_cons_self)
    · exact (ih h).imp_right
        (Or.imp (fun ⟨ws, hm, e⟩ => ⟨ws, List.mem_cons_of_mem _ hm, e⟩) (List.mem_cons_of_mem _))

theorem groupInsert_vals_ne {κ α} (cmp : κ → κ → Ordering) (k : κ) (v : List α) (hv : v ≠ [])
    {l : List (κ × List α)} (hl : ∀ q ∈ l, q.2 ≠ []) :
    ∀ q ∈ groupInsert cmp k v l, q.2 ≠ [] := by
  intro q hq
  rcases groupInsert_mem cmp k v l hq with rfl | ⟨vs, _, h2⟩ | hm
  · exact hv
  · rw [h2]; exact fun h => hv (List.append_eq_nil_iff.mp h).2
  · exact hl q hm

end Tau
