import Tau.Syntax
/-
  Small general facts the proof modules share: `NP`, "not the panic value", and how it and success
  pass through `>>=` on `Except Err`; `ite_elim`; `find?_unique`.
-/
namespace Tau

-- for `decide +kernel` on the test vectors of `tokenise` and `parse`
deriving instance DecidableEq for Except

/-- `r` is not the panic value (a panic site of the source, or the model's running out of fuel). -/
def NP {α : Type} (r : Except Err α) : Prop := ∀ s, r ≠ .error (.panic s)

theorem NP.ok {α : Type} (a : α) : NP (Except.ok a : Except Err α) := by
  intro s h; cases h

theorem NP.bind_ok {α β : Type} {a : Except Err α} {f : α → Except Err β} (ha : NP a)
    (hf : ∀ x, a = .ok x → NP (f x)) : NP (a >>= f) := by
  cases a with
  | error e => exact fun s h => ha s (by cases h; rfl)
  | ok x => exact hf x rfl

theorem NP.bind {α β : Type} {a : Except Err α} {f : α → Except Err β} (ha : NP a) (hf : ∀ x, NP (f x)) :
    NP (a >>= f) :=
  NP.bind_ok ha fun x _ => hf x

theorem ok_bind {α β : Type} (a : α) (g : α → Except Err β) : (Except.ok a >>= g) = g a := rfl

theorem error_bind {α β : Type} (e : Err) (g : α → Except Err β) : (Except.error e >>= g) = .error e := rfl

theorem ite_bind {α β : Type} (c : Prop) [Decidable c] (x y : Except Err α) (g : α → Except Err β) :
    (if c then x else y) >>= g = if c then x >>= g else y >>= g := by
  split <;> rfl

theorem bind_eq_ok {α β : Type} {x : Except Err α} {g : α → Except Err β} {r : β} :
    (x >>= g) = .ok r ↔ ∃ a, x = .ok a ∧ g a = .ok r := by
  cases x <;> simp [bind, Except.bind]

theorem bind_eq_error {α β : Type} {x : Except Err α} {g : α → Except Err β} {e : Err}
    (h : (x >>= g) = .error e) : x = .error e ∨ ∃ a, x = .ok a ∧ g a = .error e := by
  cases x with
  | error e' => exact .inl (by cases h; rfl)
  | ok a => exact .inr ⟨a, rfl, h⟩

theorem bind_stable {α β : Type} {x x' : Except Err α} {g g' : α → Except Err β}
    (hx : NP x → x' = x) (hg : ∀ a, x = .ok a → NP (g a) → g' a = g a) (h : NP (x >>= g)) :
    x' >>= g' = x >>= g := by
  cases x with
  | error e => rw [hx fun s hs => h s (by cases hs; rfl)]; rfl
  | ok a => rw [hx (NP.ok a)]; exact hg a rfl h

theorem ite_elim {α} {P : α → Prop} {c : Prop} [Decidable c] {a b : α} (ha : c → P a) (hb : ¬c → P b) :
    P (if c then a else b) := by
  split <;> simp_all

theorem find?_unique {α} {p : α → Bool} {l : List α} {a : α} (ha : a ∈ l) (hp : p a = true)
    (hu : ∀ b ∈ l, p b = true → b = a) : l.find? p = some a := by
  cases h : l.find? p with
  | none => exact absurd hp (by simpa using List.find?_eq_none.mp h a ha)
  | some b => rw [hu b (List.mem_of_find?_eq_some h) (List.find?_some h)]

end Tau
