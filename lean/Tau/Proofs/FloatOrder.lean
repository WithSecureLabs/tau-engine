import Tau.Num
/-
  The order key of `Tau.Num` compares like the real value of a binary64 pattern.  That value is
  (-1)^sign · m · 2^(e - 1075)  with m = mant (subnormal, e = 1) or 2^52 + mant (normal, e = expo);
  infinity is given the value of the next binade. `scaled b` is the value times 2^1074 — an integer,
  so "the mathematical relation" can be stated without rationals.
-/
namespace Tau.F64

/-- magnitude · 2^1074 of a pattern (sign ignored). -/
def magScaled (b : Nat) : Nat :=
  if expo b = 0 then mant b else (2 ^ 52 + mant b) * 2 ^ (expo b - 1)

/-- real value · 2^1074. -/
def scaled (b : Nat) : Int := if sign b then -(magScaled b : Int) else (magScaled b : Int)

theorem mant_lt (b : Nat) : mant b < 2 ^ 52 := Nat.mod_lt _ (Nat.pow_pos Nat.two_pos)

/-- The exponent and mantissa fields are quotient and remainder of the magnitude by 2^52. -/
theorem expo_mag (b : Nat) : expo b = mag b / 2 ^ 52 := (Nat.mod_mul_right_div_self b (2 ^ 52) 2048).symm

theorem mant_mag (b : Nat) : mant b = mag b % 2 ^ 52 := (Nat.mod_mod_of_dvd b ⟨2048, rfl⟩).symm

theorem mag_eq (b : Nat) : mag b = mant b + 2 ^ 52 * expo b := by
  rw [expo_mag, mant_mag, Nat.mod_add_div]

theorem magScaled_lt_of_expo_lt (a b : Nat) (h : expo a < expo b) : magScaled a < magScaled b := by
  unfold magScaled
  rw [if_neg (Nat.ne_zero_of_lt h)]
  -- magScaled a < 2^52 · 2^expo a ≤ 2^52 · 2^(expo b - 1) ≤ magScaled b; the bounds are left to
  -- unification, since every `2 ^ 52` written out costs the elaborator 40k heartbeats
  refine Nat.lt_of_lt_of_le ?_ (Nat.mul_le_mul_right _ (Nat.le_add_right _ (mant b)))
  split
  · exact Nat.lt_of_lt_of_le (mant_lt a) (Nat.le_mul_of_pos_right _ (Nat.pow_pos Nat.two_pos))
  · refine Nat.lt_of_lt_of_le (Nat.mul_lt_mul_of_pos_right (Nat.add_lt_add_left (mant_lt a) _)
      (Nat.pow_pos Nat.two_pos)) ?_
    rw [← Nat.mul_two, Nat.mul_assoc, ← Nat.pow_succ']
    exact Nat.mul_le_mul_left _ (Nat.pow_le_pow_right Nat.two_pos (by omega))

theorem magScaled_lt_of_mant_lt (a b : Nat) (he : expo a = expo b) (h : mant a < mant b) :
    magScaled a < magScaled b := by
  unfold magScaled
  rw [he]
  split
  · exact h
  · exact Nat.mul_lt_mul_of_pos_right (Nat.add_lt_add_left h _) (Nat.pow_pos Nat.two_pos)

theorem magScaled_lt_of_mag_lt (a b : Nat) (h : mag a < mag b) : magScaled a < magScaled b := by
  have he : expo a ≤ expo b := by
    rw [expo_mag, expo_mag]; exact Nat.div_le_div_right (Nat.le_of_lt h)
  rcases Nat.lt_or_eq_of_le he with he | he
  · exact magScaled_lt_of_expo_lt a b he
  · rw [mag_eq a, mag_eq b, he] at h
    exact magScaled_lt_of_mant_lt a b he (Nat.lt_of_add_lt_add_right h)

theorem magScaled_congr (a b : Nat) (h : mag a = mag b) : magScaled a = magScaled b := by
  unfold magScaled
  rw [expo_mag, mant_mag, expo_mag b, mant_mag b, h]

theorem mag_lt_iff (a b : Nat) : mag a < mag b ↔ magScaled a < magScaled b := by
  refine ⟨magScaled_lt_of_mag_lt a b, fun h => Nat.lt_of_not_le fun hle => ?_⟩
  rcases Nat.lt_or_eq_of_le hle with hm | hm
  · exact Nat.lt_asymm h (magScaled_lt_of_mag_lt b a hm)
  · exact Nat.lt_irrefl _ (magScaled_congr b a hm ▸ h)

theorem mag_zero : mag 0 = 0 := by decide
theorem magScaled_zero : magScaled 0 = 0 := by decide

/-- **The order key compares like the real value** (any two patterns; NaN is excluded by the
    callers `lt`/`le`/`eq`). The two zeros have the same key and the same value 0. -/
theorem key_lt_iff (a b : Nat) : key a < key b ↔ scaled a < scaled b := by
  have h1 := mag_lt_iff a b
  have h2 := mag_lt_iff b a
  have z1 := mag_lt_iff 0 a
  have z2 := mag_lt_iff 0 b
  rw [mag_zero, magScaled_zero] at z1 z2
  unfold key scaled
  -- same sign: the order of the magnitudes, reversed if negative (h1, h2); opposite signs: equal only
  -- when both magnitudes are 0 (z1, z2)
  cases sign a <;> cases sign b <;> simp <;> omega

theorem key_le_iff (a b : Nat) : key a ≤ key b ↔ scaled a ≤ scaled b := by
  rw [← Int.not_lt, ← Int.not_lt, key_lt_iff]

theorem key_eq_iff (a b : Nat) : key a = key b ↔ scaled a = scaled b := by
  rw [Int.le_antisymm_iff, Int.le_antisymm_iff, key_le_iff, key_le_iff]

end Tau.F64
