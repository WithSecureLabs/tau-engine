import Tau.Proofs.Shake1Or
import Tau.Proofs.Shake1Shape
/-
  `shake_1` keeps every verdict (true / not true) on negation-free trees, including and-groups that
  hold nested mappings (which the pass merges per field and moves behind the other conjuncts).
  Beyond the exact proof this needs what a merged block means when its members may be special cases
  of the solver (`NT`), and a truth-level simulation `SimT`, since the merge puts all()-lists under
  nested mappings and the pass runs on them again.  The or-arm is the exact proof's bucket argument
  at the one property "is true".
-/
namespace Tau

def matrixSpecial : Expr → Bool
  | .match .all (.matrix _ _) => true
  | _ => false

theorem matrixSpecial_of {x : Expr} (h : nestedSpecial x = false) : matrixSpecial x = false := by
  fun_cases matrixSpecial x
  · cases h
  · rfl

theorem allOr_or_plain (x : Expr) (hm : matrixSpecial x = false) :
    (∃ ms, x = .match .all (.group .or ms)) ∨ nestedSpecial x = false := by
  cases hs : nestedSpecial x with
  | false => exact Or.inr rfl
  | true =>
    rcases nestedSpecial_cases x hs with h | ⟨cols, rows, rfl⟩
    · exact Or.inl h
    · cases hm

/-- Members of an and-group: nested mappings, or things that cannot become one. -/
def andMem : List Expr → Bool
  | [] => true
  | e :: es => (isNestedE e || !hasTopNested e) && andMem es

theorem andMem_iff (l : List Expr) : andMem l = true ↔ ∀ x ∈ l, isNestedE x = true ∨ hasTopNested x = false := by
  rw [allL_iff (p := fun e => isNestedE e || !hasTopNested e) rfl (fun _ _ => rfl)]
  simp

mutual
/-- Against `e1OK`: no negation, no none-of (it goes against the members' truth as negation does);
    and-groups may hold nested mappings; under a nested mapping only the matrix arm is excluded (the
    and-arm's merge makes all()-lists). -/
def e2OK : Expr → Bool
  | .group .and es => !es.isEmpty && e2OKL es && andMem es
  | .group .or es => !es.isEmpty && e2OKL es
  | .group _ _ => false
  | .bin l .and r => e2OK l && e2OK r
  | .bin l .or r => e2OK l && e2OK r
  | .bin l _ r => isLeafE l && isLeafE r
  | .match k x => (k != .of 0) && matchChildOK x && e2OK x
  | .negate _ => false
  | .nested _ x => nestedChildOK x && !matrixSpecial x && e2OK x
  | .search (.ac ctx _) _ _ => !ctx.isEmpty
  | .search (.regexSet ps _) _ _ => !ps.isEmpty
  | _ => true
def e2OKL : List Expr → Bool
  | [] => true
  | e :: es => e2OK e && e2OKL es
end

theorem e2OKL_iff (l : List Expr) : e2OKL l = true ↔ ∀ x ∈ l, e2OK x = true :=
  allL_iff rfl (fun _ _ => rfl) l

/-- `Sim` at truth level.  The group form is the pass mapped over the members (equal length by
    construction); and / or only and no none-of, because truth passes through nothing else. -/
inductive SimT (E : RegexEngine) (K : IdentK) : Expr → Expr → Prop
  | refl (x : Expr) : SimT E K x x
  | group (op : BoolSym) (es : List Expr) (g : Expr → Expr) (hop : op = .and ∨ op = .or)
      (h : ∀ d, ∀ y ∈ es, TEq (solveG E K d (g y)) (solveG E K d y)) :
      SimT E K (.group op es) (.group op (es.map g))
  | «match» (k : MatchK) (hk : k ≠ .of 0) (y y' : Expr) (h : SimT E K y y') : SimT E K (.match k y) (.match k y')
  | gen (x x' : Expr) (hx : genericCls x = true) (hx' : genericCls x' = true)
      (h : ∀ d, TEq (solveG E K d x') (solveG E K d x)) : SimT E K x x'

theorem simT_match (E : RegexEngine) (K : IdentK) (x x' : Expr) (h : SimT E K x x') :
    ∀ k, k ≠ .of 0 → ∀ d, TEq (solveG E K d (.match k x')) (solveG E K d (.match k x)) := by
  induction h with
  | refl x => intros; exact Iff.rfl
  | group op es g hop h =>
    intro k hk d
    cases k with
    | all =>
      simpa only [solveG] using group_map_truth E K d (Or.inl rfl) es g (h d)
    | of c =>
      have hc : c ≠ 0 := fun h0 => hk (by rw [h0])
      simp only [solveG, listG_eq_map, List.map_map]
      exact (List.Forall₂'.map es _ _ (h d)).ofN_pos hc
  | «match» k2 hk2 y y' _ ih =>
    intro k hk d
    rw [match_match, match_match]
    exact matchFt_truth k hk _ _ (ih k2 hk2 d)
  | gen x x' hx hx' h =>
    intro k hk d
    rw [match_generic E K d k x hx, match_generic E K d k x' hx']
    exact matchFt_truth k hk _ _ (h d)

theorem simT_value (E : RegexEngine) (K : IdentK) (x x' : Expr) (h : SimT E K x x') :
    ∀ d, TEq (solveG E K d x') (solveG E K d x) := by
  cases h with
  | refl => intros; exact Iff.rfl
  | group op es g hop h => intro d; exact group_map_truth E K d hop es g (h d)
  | «match» k hk y y' h => intro d; exact simT_match E K y y' h k hk d
  | gen _ _ _ _ h => exact h

theorem simT_matchChildOK (E : RegexEngine) (K : IdentK) (x x' : Expr) (h : SimT E K x x')
    (hx : matchChildOK x = true) : matchChildOK x' = true := by
  cases h with
  | refl => exact hx
  | group => simpa [matchChildOK] using hx
  | «match» => rfl
  | gen _ _ _ hx' => exact (genericCls_spec hx').2.1

/-- `SimT` fixes head constructors to depth two, which is all `nestedSpecial` looks at. -/
theorem simT_nestedSpecial (E : RegexEngine) (K : IdentK) (x x' : Expr) (h : SimT E K x x') :
    nestedSpecial x' = nestedSpecial x := by
  cases h with
  | refl => rfl
  | group => rfl
  | «match» k hk y y' hy =>
    cases hy with
    | refl => rfl
    | group op es g => cases k <;> cases op <;> rfl
    | «match» => cases k <;> rfl
    | gen y y' h1 h2 =>
      rw [(genericCls_spec h1).2.2.2 k, (genericCls_spec h2).2.2.2 k]
  | gen _ _ h1 h2 =>
    rw [(genericCls_spec h1).2.2.1, (genericCls_spec h2).2.2.1]

theorem simT_nested (E : RegexEngine) (K : IdentK) (x x' : Expr) (h : SimT E K x x')
    (hm : matrixSpecial x = false) :
    ∀ f d, TEq (solveG E K d (.nested f x')) (solveG E K d (.nested f x)) := by
  intro f
  cases hs : nestedSpecial x with
  | false =>
    exact nested_truth_congr E K f x x' hs (by rw [simT_nestedSpecial E K x x' h, hs]) (simT_value E K x x' h)
  | true =>
    -- an all()-list: the arm asks every member on the elements, and the members are simulated one by one
    obtain ⟨es, rfl⟩ := (allOr_or_plain x hm).resolve_right (by rw [hs]; simp)
    cases h with
    | refl => intro d; exact Iff.rfl
    | gen _ _ h1 => cases h1
    | «match» k hk y y' hy =>
      cases hy with
      | refl => intro d; exact Iff.rfl
      | gen _ _ h1 => cases h1
      | group op es g hop h =>
        intro d
        by_cases hne : es = []
        · subst hne; exact Iff.rfl
        · unfold TEq
          rw [nested_special_truth E K d f es hne,
            nested_special_truth E K d f (es.map g) (by simpa using hne), List.forall_mem_map]
          exact forall_congr' fun m => forall_congr' fun hm' => NT_congr E K f m (g m) (fun dd => h dd m hm') d

def GoodT (E : RegexEngine) (K : IdentK) (fuel : Nat) (e : Expr) : Prop :=
  e2OK (shake1 fuel e) = true ∧ (∀ d, TEq (solveG E K d (shake1 fuel e)) (solveG E K d e)) ∧
  (mayBecomeMatch (shake1 fuel e) = true → mayBecomeMatch e = true) ∧
  (hasTopNested (shake1 fuel e) = true → hasTopNested e = true) ∧
  ((∀ op es, e ≠ .group op es) → matchChildOK e = true → SimT E K e (shake1 fuel e))

theorem goodT_of {E : RegexEngine} {K : IdentK} {fuel : Nat} {e : Expr} (c : e2OK (shake1 fuel e) = true)
    (v : ∀ d, TEq (solveG E K d (shake1 fuel e)) (solveG E K d e))
    (s : (∀ op es, e ≠ .group op es) → matchChildOK e = true → SimT E K e (shake1 fuel e)) :
    GoodT E K fuel e :=
  ⟨c, v, (shake1_shape fuel e).1, (shake1_shape fuel e).2, s⟩

theorem goodT_refl {E : RegexEngine} {K : IdentK} {fuel : Nat} {e : Expr} (hs : shake1 fuel e = e)
    (h : e2OK e = true) : GoodT E K fuel e := by
  rw [GoodT, hs]; exact ⟨h, fun _ => Iff.rfl, id, id, fun _ _ => SimT.refl e⟩

theorem e2OK_search (s : Search) (f : Str) (c : Bool) : e2OK (.search s f c) = memberOK (.search s f c) := by
  cases s <;> rfl

theorem e2OK_bin (l : Expr) (op : BoolSym) (r : Expr) :
    e2OK (.bin l op r) = if boolOp op = true then e2OK l && e2OK r else isLeafE l && isLeafE r := by
  cases op <;> rfl

theorem e2OK_group (op : BoolSym) (es : List Expr) :
    e2OK (.group op es) = true ↔
      es ≠ [] ∧ (∀ x ∈ es, e2OK x = true) ∧ (op = .or ∨ op = .and ∧ andMem es = true) := by
  cases op with
  | and => simp [e2OK, e2OKL_iff, and_assoc]
  | or => simp [e2OK, e2OKL_iff]
  | _ => exact ⟨nofun, fun h => by obtain h | ⟨h, _⟩ := h.2.2 <;> cases h⟩

theorem e2OK_group_mem (op : BoolSym) (es : List Expr) (h : e2OK (.group op es) = true) :
    ∀ y ∈ es, e2OK y = true :=
  ((e2OK_group op es).mp h).2.1

theorem e2OK_and (es : List Expr) :
    e2OK (.group .and es) = true ↔ es ≠ [] ∧ (∀ x ∈ es, e2OK x = true) ∧ andMem es = true := by
  rw [e2OK_group]; simp

theorem e2OK_or (es : List Expr) : e2OK (.group .or es) = true ↔ es ≠ [] ∧ ∀ x ∈ es, e2OK x = true := by
  rw [e2OK_group]; simp

theorem e2OK_group_op (op : BoolSym) (es : List Expr) (h : e2OK (.group op es) = true) : op = .and ∨ op = .or :=
  ((e2OK_group op es).mp h).2.2.symm.imp_left And.left

theorem e2OK_nested (f : Str) (b : Expr) :
    e2OK (.nested f b) = true ↔ e2OK b = true ∧ nestedChildOK b = true ∧ matrixSpecial b = false := by
  simp only [e2OK, Bool.and_eq_true, Bool.not_eq_true']
  exact ⟨fun h => ⟨h.2, h.1.1, h.1.2⟩, fun h => ⟨⟨h.2.1, h.2.2⟩, h.1⟩⟩

theorem e2OK_match (k : MatchK) (x : Expr) :
    e2OK (.match k x) = true ↔ k ≠ .of 0 ∧ matchChildOK x = true ∧ e2OK x = true := by
  simp only [e2OK, Bool.and_eq_true, bne_iff_ne, ne_eq, and_assoc]

def plainBody (x : Expr) : Prop := e2OK x = true ∧ nestedChildOK x = true ∧ nestedSpecial x = false

/-- Third component: a one-member bucket is rebuilt without all() (`buildAndNested`), so its member
    must be a plain body. -/
def AndInv (N : List (Str × List Expr)) : Prop :=
  ∀ q ∈ N, (∀ x ∈ q.2, e2OK x = true) ∧ q.2 ≠ [] ∧ (∀ x, q.2 = [x] → plainBody x)

theorem andInv_insert (N : List (Str × List Expr)) (hN : AndInv N) (f : Str) (v : List Expr)
    (hv : (∀ x ∈ v, e2OK x = true) ∧ v ≠ [] ∧ ∀ x, v = [x] → plainBody x) :
    AndInv (groupInsert strCmp f v N) := by
  intro q hq
  rcases groupInsert_mem strCmp f v N hq with rfl | ⟨vs, hvs, h2⟩ | h
  · exact hv
  · obtain ⟨a, b, _⟩ := hN (q.1, vs) hvs
    rw [h2]
    refine ⟨List.forall_mem_append.mpr ⟨a, hv.1⟩, by simp [b], fun x hx => ?_⟩
    rcases List.append_eq_singleton_iff.mp hx with ⟨h0, _⟩ | ⟨_, h0⟩
    · exact absurd h0 b
    · exact absurd h0 hv.2.1
  · exact hN q h

theorem andNestedStep_view_e2OK (y : Expr) (hy : e2OK y = true) :
    (isNestedE y = false ∧ ∀ acc, andNestedStep acc y = acc) ∨
    ∃ f v, isNestedE y = true ∧ (∀ acc, andNestedStep acc y = groupInsert strCmp f v acc) ∧
      ((∀ x ∈ v, e2OK x = true) ∧ v ≠ [] ∧ ∀ x, v = [x] → plainBody x) ∧
      ∀ E K d, (solveG E K d y = .t ↔ ∀ x ∈ v, NT E K f x d) := by
  rcases andNestedStep_view y with h | ⟨f, b, v, rfl, hs, hv⟩
  · exact .inl h
  · obtain ⟨hb, hc, hm⟩ := (e2OK_nested f b).mp hy
    refine .inr ⟨f, v, rfl, hs, ?_⟩
    rcases hv with ⟨rfl, hno⟩ | ⟨rfl, h2⟩
    · -- in the class an all()-list has two members or more, which is the shape the step looks for
      have hns : nestedSpecial b = false := (allOr_or_plain b hm).resolve_left fun ⟨ms, e⟩ =>
        Nat.not_le.mpr (hno ms e) (of_decide_eq_true ((e2OK_match .all (.group .or ms)).mp (e ▸ hb)).2.1)
      refine ⟨⟨List.forall_mem_singleton.mpr hb, List.cons_ne_nil _ _, fun x hx => ?_⟩, fun E K d => ?_⟩
      · cases List.singleton_inj.mp hx; exact ⟨hb, hc, hns⟩
      · rw [nested_plain_truth E K d f b hns, List.forall_mem_singleton]
    · have hms := ((e2OK_match _ _).mp hb).2.2
      have hne : v ≠ [] := List.ne_nil_of_length_pos (Nat.lt_of_lt_of_le Nat.zero_lt_two h2)
      exact ⟨⟨e2OK_group_mem _ _ hms, hne, fun x e => by rw [e] at h2; exact absurd h2 (Nat.not_succ_le_self 1)⟩,
        fun E K d => nested_special_truth E K d f v hne⟩

theorem andStep_inv (acc : List (Str × List Expr)) (y : Expr) (hy : e2OK y = true) (hacc : AndInv acc) :
    AndInv (andNestedStep acc y) := by
  rcases andNestedStep_view_e2OK y hy with ⟨_, hs⟩ | ⟨f, v, _, hs, hv, _⟩ <;> rw [hs]
  · exact hacc
  · exact andInv_insert acc hacc f v hv

theorem andFold_inv (L : List Expr) (hL : ∀ y ∈ L, e2OK y = true) :
    ∀ acc, AndInv acc → AndInv (L.foldl andNestedStep acc) :=
  foldl_inv (fun acc y => andStep_inv acc y) L hL

theorem andStep_T (E : RegexEngine) (K : IdentK) (d : Doc) (acc : List (Str × List Expr)) (y : Expr)
    (hy : e2OK y = true) :
    (∀ q ∈ andNestedStep acc y, ∀ x ∈ q.2, NT E K q.1 x d) ↔
      ((∀ q ∈ acc, ∀ x ∈ q.2, NT E K q.1 x d) ∧ (isNestedE y = true → solveG E K d y = .t)) := by
  rcases andNestedStep_view_e2OK y hy with ⟨hn, hs⟩ | ⟨f, v, hn, hs, _, hm⟩
  · rw [hs, hn]; exact (and_iff_left nofun).symm
  · rw [hs, groupInsert_all strCmp strCmp_eq f v acc (fun k x => NT E K k x d), ← hm E K d]
    exact ⟨fun ⟨a, b⟩ => ⟨b, fun _ => a⟩, fun ⟨a, b⟩ => ⟨b hn, a⟩⟩

theorem andFold_T (E : RegexEngine) (K : IdentK) (d : Doc) (L : List Expr) (hL : ∀ y ∈ L, e2OK y = true) :
    ∀ acc, (∀ q ∈ L.foldl andNestedStep acc, ∀ x ∈ q.2, NT E K q.1 x d) ↔
      ((∀ q ∈ acc, ∀ x ∈ q.2, NT E K q.1 x d) ∧ ∀ y ∈ L, isNestedE y = true → solveG E K d y = .t) := by
  induction L with
  | nil => exact fun acc => (and_iff_left nofun).symm
  | cons y ys ih =>
    intro acc
    rw [List.foldl_cons, ih (fun z hz => hL z (List.mem_cons_of_mem _ hz)),
      andStep_T E K d acc y (hL y List.mem_cons_self), List.forall_mem_cons, and_assoc]

theorem andFold_spec (E : RegexEngine) (K : IdentK) (d : Doc) (L : List Expr) (hL : ∀ y ∈ L, e2OK y = true) :
    ∀ acc, AndInv acc →
      AndInv (L.foldl andNestedStep acc) ∧
      ((∀ q ∈ L.foldl andNestedStep acc, ∀ x ∈ q.2, NT E K q.1 x d) ↔
        ((∀ q ∈ acc, ∀ x ∈ q.2, NT E K q.1 x d) ∧ ∀ y ∈ L, isNestedE y = true → solveG E K d y = .t)) :=
  fun acc h => ⟨andFold_inv L hL acc h, andFold_T E K d L hL acc⟩

theorem andOut_truth (E : RegexEngine) (K : IdentK) (d : Doc) (n : Nat) (L : List Expr)
    (hL : ∀ y ∈ L, e2OK y = true)
    (hmk : ∀ q ∈ L.foldl andNestedStep [], (solveG E K d (buildAndNested n q) = .t ↔ ∀ x ∈ q.2, NT E K q.1 x d)) :
    (∀ z ∈ andOut n L, solveG E K d z = .t) ↔ ∀ y ∈ L, solveG E K d y = .t := by
  have hN : (∀ q ∈ L.foldl andNestedStep [], solveG E K d (buildAndNested n q) = .t) ↔
      ∀ y ∈ L, isNestedE y = true → solveG E K d y = .t :=
    (forall_congr' fun q => forall_congr' fun hq => hmk q hq).trans
      ((andFold_T E K d L hL []).trans (and_iff_right nofun))
  rw [andOut, List.forall_mem_append, List.forall_mem_map, hN]
  simp only [List.mem_filter, Bool.not_eq_true']
  constructor
  · rintro ⟨a, b⟩ y hy
    cases hn : isNestedE y with
    | false => exact a y ⟨hy, hn⟩
    | true => exact b y hy hn
  · exact fun h => ⟨fun y hy => h y hy.1, fun y hy _ => h y hy⟩

theorem nested_plainT (E : RegexEngine) (K : IdentK) (n : Nat) (ih : ∀ e, e2OK e = true → GoodT E K n e)
    (f : Str) (x : Expr) (hp : plainBody x) :
    e2OK (.nested f (shake1 n x)) = true ∧
      ∀ d, TEq (solveG E K d (.nested f (shake1 n x))) (solveG E K d (.nested f x)) := by
  obtain ⟨h1, h2, h3⟩ := hp
  have G := ih x h1
  obtain ⟨n1, n2⟩ := nestedBody_ok n x h2 h3
  exact ⟨(e2OK_nested _ _).mpr ⟨G.1, n2, matrixSpecial_of n1⟩, nested_truth_congr E K f x (shake1 n x) h3 n1 G.2.1⟩

theorem nested_allOrT (E : RegexEngine) (K : IdentK) (n : Nat) (ih : ∀ e, e2OK e = true → GoodT E K n e)
    (f : Str) (ms : List Expr) (hM : e2OK (.match .all (.group .or ms)) = true) :
    e2OK (.nested f (shake1 n (.match .all (.group .or ms)))) = true ∧
      ∀ d, TEq (solveG E K d (.nested f (shake1 n (.match .all (.group .or ms)))))
        (solveG E K d (.nested f (.match .all (.group .or ms)))) := by
  have G := ih _ hM
  obtain ⟨xs', hxs'⟩ := shake1_allOr n ms
  exact ⟨(e2OK_nested _ _).mpr ⟨G.1, by rw [hxs']; rfl, by rw [hxs']; rfl⟩,
    simT_nested E K _ _ (G.2.2.2.2 nofun rfl) rfl f⟩

theorem buildAndNested_spec (E : RegexEngine) (K : IdentK) (n : Nat)
    (ih : ∀ e, e2OK e = true → GoodT E K n e) (f : Str) (xs : List Expr)
    (hx : ∀ x ∈ xs, e2OK x = true) (hne : xs ≠ []) (hone : ∀ x, xs = [x] → plainBody x) :
    e2OK (buildAndNested n (f, xs)) = true ∧
    ∀ d, (solveG E K d (buildAndNested n (f, xs)) = .t ↔ ∀ x ∈ xs, NT E K f x d) := by
  match xs, hne, hx, hone with
  | [x], _, _, hone =>
    obtain ⟨c, v⟩ := nested_plainT E K n ih f x (hone x rfl)
    exact ⟨c, fun d => Iff.trans (v d)
      (by rw [nested_plain_truth E K d f x (hone x rfl).2.2, List.forall_mem_singleton])⟩
  | x :: y :: rest, _, hx, _ =>
    have hM : e2OK (.match .all (.group .or (x :: y :: rest))) = true :=
      (e2OK_match _ _).mpr ⟨nofun, decide_eq_true (Nat.le_add_left 2 rest.length), (e2OK_or _).mpr ⟨nofun, hx⟩⟩
    obtain ⟨c, v⟩ := nested_allOrT E K n ih f _ hM
    exact ⟨c, fun d => Iff.trans (v d) (nested_special_truth E K d f _ nofun)⟩

theorem buildNested_specT (E : RegexEngine) (K : IdentK) (fuel : Nat)
    (IH : ∀ e, e2OK e = true → GoodT E K fuel e) (f : Str) (xs : List Expr) (hne : xs ≠ [])
    (hb : ∀ b ∈ xs, plainBody b) :
    e2OK (buildNested fuel (f, xs)) = true ∧
    ∀ d, (solveG E K d (buildNested fuel (f, xs)) = .t ↔ ∃ b ∈ xs, solveG E K d (.nested f b) = .t) := by
  match xs, hne, hb with
  | [x], _, hb =>
    obtain ⟨c, v⟩ := nested_plainT E K fuel IH f x (hb x List.mem_cons_self)
    exact ⟨c, fun d => Iff.trans (v d) (by simp)⟩
  | x :: y :: rest, _, hb =>
    have hg : e2OK (.group .or (x :: y :: rest)) = true := (e2OK_or _).mpr ⟨nofun, fun b hb' => (hb b hb').1⟩
    obtain ⟨c, v⟩ := nested_plainT E K fuel IH f (.group .or (x :: y :: rest)) ⟨hg, rfl, rfl⟩
    refine ⟨c, fun d => Iff.trans (v d) ?_⟩
    rw [nested_or_merge E K d f (x :: y :: rest) nofun (fun b hb' => (hb b hb').2.2), Tri.or_eq_t_iff]
    simp only [List.mem_map]

theorem nested_bucket_specT (E : RegexEngine) (K : IdentK) (fuel : Nat)
    (IH : ∀ e, e2OK e = true → GoodT E K fuel e) (L : List Expr) (hL : ∀ x ∈ L, e2OK x = true)
    (q : Str × List Expr) (hq : q ∈ (L.foldl orClassify {}).nested) :
    e2OK (buildNested fuel q) = true ∧
      ∀ d, (solveG E K d (buildNested fuel q) = .t ↔ ∃ b ∈ q.2, solveG E K d (.nested q.1 b) = .t) := by
  have hb := orB_classified L
  refine buildNested_specT E K fuel IH q.1 q.2 (hb.nestedNe q hq) fun b h => ?_
  obtain ⟨h1, h2, h3⟩ := (e2OK_nested q.1 b).mp (hL _ (hb.nested q hq b h).1)
  exact ⟨h1, h2, (allOr_or_plain b h3).resolve_left fun ⟨ms, e⟩ => (hb.nested q hq b h).2 ms e⟩

theorem orOut_truth (E : RegexEngine) (K : IdentK) (d : Doc) (fuel : Nat)
    (IH : ∀ e, e2OK e = true → GoodT E K fuel e) (L : List Expr) (hL : ∀ x ∈ L, e2OK x = true) :
    (∃ x ∈ orOut fuel (L.foldl orClassify {}), solveG E K d x = .t) ↔ ∃ x ∈ L, solveG E K d x = .t :=
  orOut_Ex E K d (· = .t) dist_t fuel L (fun x hx => memberOK_of_class e2OK_search x (hL x hx)) fun q hq =>
    (nested_bucket_specT E K fuel IH L hL q hq).2 d

theorem andMem_map (n : Nat) (es : List Expr) (h : andMem es = true) : andMem (es.map (shake1 n)) = true := by
  rw [andMem_iff] at h ⊢
  intro x hx
  obtain ⟨y, hy, rfl⟩ := List.mem_map.mp hx
  rcases h y hy with hn | hn
  · obtain ⟨f, b, rfl⟩ := (isNestedE_iff y).mp hn
    obtain ⟨b', hb'⟩ := shake1_nested_form n f b
    rw [hb']; exact Or.inl rfl
  · exact Or.inr (hasTopNested_shake1 n y hn)

theorem e2OK_group_map (n : Nat) (op : BoolSym) (es : List Expr) (h : e2OK (.group op es) = true)
    (hL : ∀ y ∈ es, e2OK (shake1 n y) = true) : e2OK (.group op (es.map (shake1 n))) = true := by
  obtain ⟨h1, _, h3⟩ := (e2OK_group op es).mp h
  exact (e2OK_group op _).mpr ⟨by simpa using h1, List.forall_mem_map.mpr hL,
    h3.imp_right (And.imp_right (andMem_map n es))⟩

/-- The and-arm's rebuild `andOut n L` of an and-group of the class is one again, true when `L` is:
    what `orOut_class` and `orOut_truth` say of the or-arm's. -/
theorem andOut_good (E : RegexEngine) (K : IdentK) (n : Nat) (ih : ∀ e, e2OK e = true → GoodT E K n e)
    (L : List Expr) (h : e2OK (.group .and L) = true) :
    e2OK (.group .and (andOut n L)) = true ∧
      ∀ d, TEq (solveG E K d (.group .and (andOut n L))) (solveG E K d (.group .and L)) := by
  obtain ⟨hne, hLok, hLand⟩ := (e2OK_and L).mp h
  have hbuild : ∀ q ∈ L.foldl andNestedStep [], e2OK (buildAndNested n q) = true ∧
      ∀ d, (solveG E K d (buildAndNested n q) = .t ↔ ∀ x ∈ q.2, NT E K q.1 x d) := by
    intro q hq
    obtain ⟨a, b, c⟩ := andFold_inv L hLok [] (by intro q hq; simp at hq) q hq
    exact buildAndNested_spec E K n ih q.1 q.2 a b c
  refine ⟨(e2OK_and _).mpr ⟨andOut_ne_nil n L hne, fun z hz => ?_, (andMem_iff _).mpr fun z hz => ?_⟩,
    fun d => teq_and_groups E K d _ _ (andOut_truth E K d n L hLok fun q hq => (hbuild q hq).2 d)⟩
  · exact ((mem_andOut n L z).mp hz).elim (fun h => hLok z h.1) fun ⟨q, hq, e⟩ => e ▸ (hbuild q hq).1
  · rcases (mem_andOut n L z).mp hz with ⟨a, b⟩ | ⟨q, _, rfl⟩
    · exact Or.inr (((andMem_iff L).mp hLand z a).resolve_left (by rw [b]; simp))
    · obtain ⟨f, b, hb⟩ := buildAndNested_nested n q
      rw [hb]; exact Or.inl rfl

theorem goodT_and (E : RegexEngine) (K : IdentK) (n : Nat) (ih : ∀ e, e2OK e = true → GoodT E K n e)
    (es : List Expr) (h : e2OK (.group .and es) = true) : GoodT E K (n + 1) (.group .and es) := by
  -- the pass mapped over the members, then the rebuild, then once more round or the unwrapping
  have hmem := e2OK_group_mem _ es h
  obtain ⟨hgs, hvs⟩ := andOut_good E K n ih _ (e2OK_group_map n .and es h fun y hy => (ih y (hmem y hy)).1)
  have hv := fun d => (hvs d).trans
    (group_map_truth E K d (.inl rfl) es (shake1 n) fun y hy => (ih y (hmem y hy)).2.1 d)
  refine goodT_of ?_ (fun d => ?_) (fun hng => absurd rfl (hng .and es)) <;> rw [shake1_and] <;> split
  · exact (ih _ hgs).1
  · exact unwrapGroup_ind .and _ (e2OK · = true) hgs (e2OK_group_mem _ _ hgs)
  · exact ((ih _ hgs).2.1 d).trans (hv d)
  · rw [unwrapGroup_solve E K d .and _ (Or.inl rfl)]; exact hv d

theorem goodT_or (E : RegexEngine) (K : IdentK) (n : Nat) (ih : ∀ e, e2OK e = true → GoodT E K n e)
    (es : List Expr) (h : e2OK (.group .or es) = true) : GoodT E K (n + 1) (.group .or es) := by
  obtain ⟨c, v⟩ := or_armG (R := TEq) E K e2OK_or Iff.trans
    (fun d es g => group_map_truth E K d (Or.inr rfl) es g) n
    (fun e h => ⟨(ih e h).1, (ih e h).2.1⟩)
    (fun L hL => ⟨orOut_class e2OK_search n L hL fun q hq => (nested_bucket_specT E K n ih L hL q hq).1,
      fun d => teq_or_groups E K d _ _ (orOut_truth E K d n ih L hL)⟩) es h
  exact goodT_of c v fun hng => absurd rfl (hng .or es)

/-- The operand of an all()/of() after the pass: in the class, and dispatched like the operand before. -/
theorem argGoodT (E : RegexEngine) (K : IdentK) (n : Nat) (ih : ∀ e, e2OK e = true → GoodT E K n e)
    (x : Expr) (h : e2OK x = true) (hm : matchChildOK x = true) :
    e2OK (matchArg (shake1 n) x) = true ∧ SimT E K x (matchArg (shake1 n) x) := by
  unfold matchArg
  split
  · rename_i op es
    have hmem := e2OK_group_mem op es h
    exact ⟨e2OK_group_map n op es h fun y hy => (ih y (hmem y hy)).1,
      SimT.group op es (shake1 n) (e2OK_group_op op es h) fun d y hy => (ih y (hmem y hy)).2.1 d⟩
  · rename_i hng
    exact ⟨(ih _ h).1, (ih _ h).2.2.2.2 hng hm⟩

theorem shake1_goodT (E : RegexEngine) (K : IdentK) : ∀ fuel e, e2OK e = true → GoodT E K fuel e := by
  intro fuel
  induction fuel with
  | zero => intro e h; exact goodT_refl rfl h
  | succ n ih =>
    intro e h
    cases e with
    | group op es =>
      rcases e2OK_group_op op es h with rfl | rfl
      · exact goodT_and E K n ih es h
      · exact goodT_or E K n ih es h
    | bin l op r =>
      have h' := h
      rw [e2OK_bin] at h'
      split at h' <;> simp only [Bool.and_eq_true] at h'
      · rename_i hop
        exact goodT_of (by rw [shake1_bin, e2OK_bin, hop, (ih l h'.1).1, (ih r h'.2).1]; rfl)
          (bin_truth E K (boolOp_iff.mp hop) (ih l h'.1).2.1 (ih r h'.2).2.1)
          (fun _ hm => by rw [matchChildOK_bin (boolOp_iff.mp hop)] at hm; cases hm)
      · exact goodT_refl (shake1_cmp (n + 1) l op r h'.1 h'.2) h
    | «match» k x =>
      obtain ⟨hk, hmc, hx⟩ := (e2OK_match k x).mp h
      obtain ⟨c, S⟩ := argGoodT E K n ih x hx hmc
      refine goodT_of ?_ (fun d => ?_) (fun _ _ => ?_) <;> rw [shake1_match]
      · exact (e2OK_match _ _).mpr ⟨hk, simT_matchChildOK E K x _ S hmc, c⟩
      · exact simT_match E K x _ S k hk d
      · exact SimT.match k hk x _ S
    | negate x => simp only [e2OK] at h; cases h
    | nested f x =>
      obtain ⟨h1, h2, h3⟩ := (e2OK_nested f x).mp h
      rcases allOr_or_plain x h3 with ⟨ms, rfl⟩ | hns
      · obtain ⟨c, hv⟩ := nested_allOrT E K n ih f ms h1
        exact goodT_of c hv fun _ _ => SimT.gen _ _ rfl rfl hv
      · obtain ⟨c, hv⟩ := nested_plainT E K n ih f x ⟨h1, h2, hns⟩
        exact goodT_of c hv fun _ _ => SimT.gen _ _ rfl rfl hv
    | _ => exact goodT_refl rfl h

end Tau
