import Tau.Proofs.Shake0
import Tau.Proofs.Safe
import Tau.Proofs.Rule
import Tau.Proofs.Rewrite
/-
  A parsed condition whose identifiers are defined is `safe` (`pshape_safe`), and the optimiser
  passes `coalesce`, `shake_0` and `rewrite` keep a tree inside `safe`: an optimised rule (with those
  passes) reaches no panic site either.
-/
namespace Tau

theorem pshape_safe (defd : Str → Bool) (e : Expr) (h : PShape e) (hs : e.isSolvable = true)
    (hd : ∀ i ∈ condIdents e, defd i = true) : safe defd e = true := by
  induction h with
  | ident i | matchIdent k i => exact hd i List.mem_cons_self
  | litFloat | litInt | litCast => cases hs
  | negate hp hn ih => exact ih (hp.negatable_solvable hn) hd
  | binBool op hop _ _ hls hrs ihl ihr =>
    rw [safe_bin hop, ihl hls fun i hi => hd i (List.mem_append_left _ hi),
      ihr hrs fun i hi => hd i (List.mem_append_right _ hi)]
    rfl
  | cmp l op r h1 h2 => exact safe_cmp l op r ⟨h1, h2⟩

theorem coalesce_safe (ids : Ids) (c : Expr) (h : PShape c) (hs : c.isSolvable = true)
    (hd : ∀ i ∈ condIdents c, (lookupId ids i).isSome = true)
    (hb : ∀ i b, lookupId ids i = some b → safe nod b = true) : safe nod (coalesce ids c) = true :=
  h.coalesce_ind ids
    (P := fun c c' => c.isSolvable = true → (∀ i ∈ condIdents c, (lookupId ids i).isSome = true) →
      safe nod c' = true)
    (fun i _ hd => by
      obtain ⟨b, hl⟩ := Option.isSome_iff_exists.mp (hd i List.mem_cons_self)
      rw [hl]; exact hb i b hl)
    (fun k i _ hd => by
      obtain ⟨b, hl⟩ := Option.isSome_iff_exists.mp (hd i List.mem_cons_self)
      rw [hl]; exact safe_match_of_safe _ k b (hb i b hl))
    (fun e _ he hs => by rw [he] at hs; cases hs)
    (fun hs ih _ hd => ih hs hd)
    (fun op hop hls hrs ihl ihr _ hd => by
      rw [safe_bin hop, ihl hls fun i hi => hd i (List.mem_append_left _ hi),
        ihr hrs fun i hi => hd i (List.mem_append_right _ hi)]
      rfl)
    (fun l op r h1 h2 _ _ _ _ => safe_cmp l op r ⟨h1, h2⟩) hs hd

/-- `rewrite` touches only the contents of searches. -/
theorem rewrite_safe (E : RegexEngine) (defd : Str → Bool) :
    ∀ (e : Expr), safe defd e = true → safe defd (rewrite E e) = true := by
  intro e
  induction e using Expr.solver_induct with
  | group op es ih =>
    intro h
    show safe defd (.group op (rewriteL E es)) = true
    rw [rewriteL_eq_map]
    exact safe_group_iff.mpr ((safe_group_iff.mp h).imp_right fun h =>
      List.forall_mem_map.mpr fun y hy => ih y hy (h y hy))
  | bin l op r _ ihl ihr => exact safe_bin_map ihl ihr
  | cmp l op r hop => exact fun _ => safe_cmp _ op _ hop
  | matchGroup k op es ih =>
    intro h
    show safeL defd (rewriteL E es) = true
    rw [rewriteL_eq_map]
    exact safeL_map h ih
  | matchFt k e hi hg hm ih => exact fun h => safe_match_of_safe defd k _ (ih (safe_of_match h hg))
  | negate e ih | nested f e _ ih => exact ih
  | nestedAllOr f es ih =>
    intro h
    show safeL defd (rewriteL E es) = true
    rw [rewriteL_eq_map]
    exact safeL_map h ih
  | lit e h => exact fun hs => nomatch (safe_leaf h).symm.trans hs
  | ident | matchIdent | matchMatrix | matrix | nestedAllMatrix | search => exact id

theorem rewriteL_safe (E : RegexEngine) (defd : Str → Bool) :
    ∀ (es : List Expr), safeL defd es = true → safeL defd (rewriteL E es) = true := fun es h =>
  rewriteL_eq_map E es ▸ safeL_map h fun e _ => rewrite_safe E defd e

section
variable {defd : Str → Bool} {op : BoolSym} (hop : op = .and ∨ op = .or)
include hop

theorem flat_safe {x : Expr} {p : List Expr} (h : Flat op x p) (hx : safe defd x = true) :
    ∀ e ∈ p, safe defd e = true := by
  cases h with
  | self => exact List.forall_mem_singleton.mpr hx
  | group => exact (safe_group_iff.mp hx).2
  | bin a b =>
    rw [safe_bin hop, Bool.and_eq_true] at hx
    exact List.forall_mem_cons.mpr ⟨hx.1, List.forall_mem_singleton.mpr hx.2⟩

end

theorem unwrapGroup_safe (defd : Str → Bool) (op : BoolSym) (es : List Expr) (hop : op = .and ∨ op = .or)
    (h : ∀ e ∈ es, safe defd e = true) : safe defd (unwrapGroup op es) = true :=
  unwrapGroup_ind op es _ (safe_group_iff.mpr ⟨hop, h⟩) h

theorem safe_belowMatch {defd : Str → Bool} {e e' : Expr} (hg : ∀ op es, e ≠ .group op es)
    (h : safe defd e = true → safe defd e' = true) :
    (safe defd e = true → safe defd e' = true) ∧
    (∀ k, safe defd (.match k e) = true → safe defd (.match k e') = true) :=
  ⟨h, fun k hk => safe_match_of_safe defd k _ (h (safe_of_match hk hg))⟩

/-- The second component: underneath an all()/of() `safe` asks less of a group. -/
theorem shake0G_safe (defd : Str → Bool) {dn : Bool} {e e' : Expr} (h : Shake0G dn e e') :
    (safe defd e = true → safe defd e' = true) ∧
    (∀ k, safe defd (.match k e) = true → safe defd (.match k e') = true) := by
  induction h with
  | refl => exact ⟨id, fun _ => id⟩
  | unwrap op _ ih =>
    exact ⟨fun h => ih.1 ((safe_group_iff.mp h).2 _ List.mem_cons_self),
      fun k h => safe_match_of_safe defd k _ (ih.1 ((safeL_iff defd _).mp h _ List.mem_cons_self))⟩
  | group op es f _ _ ih =>
    have hm : (∀ e ∈ es, safe defd e = true) → ∀ e ∈ es.map f, safe defd e = true :=
      fun h => List.forall_mem_map.mpr fun y hy => (ih y hy).1 (h y hy)
    exact ⟨fun h => safe_group_iff.mpr ((safe_group_iff.mp h).imp_right hm),
      fun k h => (safeL_iff defd _).mpr (hm ((safeL_iff defd es).mp h))⟩
  | bin op _ _ ihl ihr => exact safe_belowMatch (fun _ _ h => by cases h) (safe_bin_map ihl.1 ihr.1)
  | regroup hop _ fl fr _ ihb ihg =>
    refine safe_belowMatch (fun _ _ h => by cases h) fun h => ihg.1 ?_
    have h := ihb.1 h
    rw [safe_bin hop, Bool.and_eq_true] at h
    exact safe_group_iff.mpr ⟨hop, List.forall_mem_append.mpr ⟨flat_safe hop fl h.1, flat_safe hop fr h.2⟩⟩
  | «match» k _ ih => exact safe_belowMatch (fun _ _ h => by cases h) (ih.2 k)
  -- `safe defd (.negate x)` and `safe defd (.nested f x)` are `safe defd x` by definition
  | negate _ ih => exact safe_belowMatch (fun _ _ h => by cases h) ih.1
  | dneg _ _ _ ihx ihy => exact safe_belowMatch (fun _ _ h => by cases h) fun h => ihy.1 (ihx.1 h)
  | nested f _ ih => exact safe_belowMatch (fun _ _ h => by cases h) ih.1

theorem shake0_safe (defd : Str → Bool) (fuel : Nat) (e : Expr) (h : safe defd e = true) :
    safe defd (shake0 fuel e) = true :=
  (shake0G_safe defd (shake0F_graph true fuel e fun _ => rfl)).1 h

end Tau
