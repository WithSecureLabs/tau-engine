import Tau.Rule
import Tau.Proofs.Solver
import Tau.Proofs.Pratt
/-
  Lemmas of Tau/Rule.lean.  The loader read as a loop of one step (`loadStep`) followed by a final
  check (`finishLoad`), so that a fact about loaded rules is an invariant of the step plus an
  inversion of the check.  `Rule::optimise` read as one function (`optBody`) applied to the condition
  and to every identifier body; `coalesce` on a parsed condition as substitution at the identifiers.
-/
namespace Tau

namespace C14

/-- One iteration of the visitor loop (in namespace `C14` because C14's statements name it). -/
def loadStep (E : RegexEngine) (ic : Bool) (x : Str × Yaml) (st : LoadSt) : Except Err LoadSt :=
  if x.1 == condKey then
    if st.cond.isSome then .error (.rule "duplicate") else
    match scalarYamlText x.2 with
    | some s => .ok { st with cond := some s }
    | none => .error (.rule "condition-type")
  else
    if (lookupId st.ids x.1).isSome then .error (.rule "duplicate") else
    match parseIdentifier E ic x.2 with
    | .error _ => .error (.rule "identifier")
    | .ok e => .ok { st with ids := st.ids ++ [(x.1, e)], idsRaw := st.idsRaw ++ [(x.1, x.2)] }

end C14
open C14

theorem loadEntries_step (E : RegexEngine) (ic : Bool) (x : Str × Yaml) (l : List (Str × Yaml)) (st : LoadSt) :
    loadEntries E ic (x :: l) st = loadStep E ic x st >>= loadEntries E ic l := by
  obtain ⟨k, v⟩ := x
  -- the same tests on both sides; they differ only where a `match` meets the bind
  rw [loadStep, ite_bind, ite_bind, ite_bind]
  refine ite_congr rfl (fun _ => ite_congr rfl (fun _ => rfl) fun _ => ?_)
    (fun _ => ite_congr rfl (fun _ => rfl) fun _ => ?_)
  · cases scalarYamlText v <;> rfl
  · cases parseIdentifier E ic v <;> rfl

theorem loadStep_cond {E : RegexEngine} {ic : Bool} {k : Str} {v : Yaml} {st : LoadSt} {s : Str}
    (hk : (k == condKey) = true) (hc : st.cond = none) (hs : scalarYamlText v = some s) :
    loadStep E ic (k, v) st = .ok { st with cond := some s } := by
  unfold loadStep
  rw [if_pos hk, hc, hs]
  rfl

theorem loadStep_ident {E : RegexEngine} {ic : Bool} {k : Str} {v : Yaml} {st : LoadSt} {e : Expr}
    (hk : (k == condKey) = false) (hl : lookupId st.ids k = none) (he : parseIdentifier E ic v = .ok e) :
    loadStep E ic (k, v) st = .ok { st with ids := st.ids ++ [(k, e)], idsRaw := st.idsRaw ++ [(k, v)] } := by
  unfold loadStep
  rw [hk, hl, he]
  rfl

/-- The two ways a step succeeds: `loadStep_cond` and `loadStep_ident` read backwards. -/
theorem loadStep_ok {E : RegexEngine} {ic : Bool} {k : Str} {v : Yaml} {st st' : LoadSt} :
    loadStep E ic (k, v) st = .ok st' →
    ((k == condKey) = true ∧ st.cond = none ∧ ∃ s, scalarYamlText v = some s ∧ { st with cond := some s } = st') ∨
    ((k == condKey) = false ∧ lookupId st.ids k = none ∧ ∃ e, parseIdentifier E ic v = .ok e ∧
      { st with ids := st.ids ++ [(k, e)], idsRaw := st.idsRaw ++ [(k, v)] } = st') := by
  fun_cases loadStep E ic (k, v) st <;> intro h <;> cases h
  next hk hc s hs => exact .inl ⟨hk, Option.not_isSome_iff_eq_none.mp hc, s, hs, rfl⟩
  next hk hl e he => exact .inr ⟨Bool.eq_false_iff.mpr hk, Option.not_isSome_iff_eq_none.mp hl, e, he, rfl⟩

theorem loadStep_error {E : RegexEngine} {ic : Bool} {x : Str × Yaml} {st : LoadSt} {e : Err} :
    loadStep E ic x st = .error e → ∃ s, e = .rule s := by
  fun_cases loadStep E ic x st <;> intro h <;> cases h <;> exact ⟨_, rfl⟩

theorem loadEntries_error {E : RegexEngine} {ic : Bool} {e : Err} : ∀ (entries : List (Str × Yaml)) (st : LoadSt),
    loadEntries E ic entries st = .error e → ∃ s, e = .rule s
  | [], _, h => by cases h
  | x :: l, st, h => by
    rw [loadEntries_step] at h
    rcases bind_eq_error h with hs | ⟨st1, -, h⟩
    · exact loadStep_error hs
    · exact loadEntries_error l st1 h

theorem loadEntries_invariant {E : RegexEngine} {ic : Bool} (P : Ids → List (Str × Yaml) → Prop)
    (hident : ∀ ids raw k v e, P ids raw → (k == condKey) = false → lookupId ids k = none →
      parseIdentifier E ic v = .ok e → P (ids ++ [(k, e)]) (raw ++ [(k, v)])) :
    ∀ (entries : List (Str × Yaml)) {st st' : LoadSt}, P st.ids st.idsRaw →
      loadEntries E ic entries st = .ok st' → P st'.ids st'.idsRaw
  | [], st, st', hst, h => by cases h; exact hst
  | x :: l, st, st', hst, h => by
    rw [loadEntries_step] at h
    obtain ⟨st1, hs, h⟩ := bind_eq_ok.mp h
    refine loadEntries_invariant P hident l ?_ h
    rcases loadStep_ok hs with ⟨_, _, s, _, rfl⟩ | ⟨hk, hl, e, he, rfl⟩
    · exact hst
    · exact hident _ _ _ _ e hst hk hl he

/-- What `loadDetection` does with the state the entry loop ends in (rule.rs:90-153). -/
def finishLoad (st : LoadSt) : Except Err Detection :=
  match st.cond with
  | none => .error (.rule "missing-condition")
  | some raw =>
    match tokenise raw with
    | .error _ => .error (.rule "tokenise")
    | .ok tokens =>
      if !identsPresent st.ids tokens then .error (.rule "identifier-not-found") else
      match parse tokens with
      | .error _ => .error (.rule "parse")
      | .ok e =>
        if !e.isSolvable then .error (.rule "not-solvable")
        else .ok { expr := e, ids := st.ids, condRaw := raw, idsRaw := st.idsRaw }

theorem loadDetection_eq (E : RegexEngine) (ic : Bool) (entries : List (Str × Yaml)) :
    loadDetection E ic entries = loadEntries E ic entries {} >>= finishLoad := by
  unfold loadDetection finishLoad
  cases loadEntries E ic entries {} <;> rfl

theorem identsPresent_congr {a b : Ids} (h : ∀ i, lookupId a i = lookupId b i) (tokens : List Token) :
    identsPresent a tokens = identsPresent b tokens := by
  unfold identsPresent; simp only [h]

theorem finishLoad_idsRaw (st : LoadSt) (raw : List (Str × Yaml)) :
    finishLoad { st with idsRaw := raw } = (finishLoad st).map fun d => { d with idsRaw := raw } := by
  unfold finishLoad
  dsimp only
  (repeat' split) <;> rfl

theorem finishLoad_error {st : LoadSt} {e : Err} : finishLoad st = .error e → ∃ s, e = .rule s := by
  fun_cases finishLoad st <;> intro h <;> cases h <;> exact ⟨_, rfl⟩

theorem loadDetection_error {E : RegexEngine} {ic : Bool} {entries : List (Str × Yaml)} {e : Err}
    (h : loadDetection E ic entries = .error e) : ∃ s, e = .rule s := by
  rw [loadDetection_eq] at h
  rcases bind_eq_error h with hs | ⟨st, -, h⟩
  · exact loadEntries_error _ _ hs
  · exact finishLoad_error h

theorem finishLoad_ok_iff {st : LoadSt} {d : Detection} :
    finishLoad st = .ok d ↔
      st = { ids := d.ids, idsRaw := d.idsRaw, cond := some d.condRaw } ∧
      ∃ tokens, tokenise d.condRaw = .ok tokens ∧ identsPresent d.ids tokens = true ∧
        parse tokens = .ok d.expr ∧ d.expr.isSolvable = true := by
  constructor
  · obtain ⟨ids, idsRaw, cond⟩ := st
    -- every arm but the last is an error
    fun_cases finishLoad _ <;> intro h <;> cases h
    next raw hraw tokens htok hpres _ he hsolv =>
      cases hraw
      exact ⟨rfl, tokens, htok, by simpa using hpres, he, by simpa using hsolv⟩
  · rintro ⟨rfl, tokens, h4, h5, h6, h7⟩
    simp only [finishLoad, h4, h5, h6, h7]
    rfl

/-- The loop's end state can be read off `d`; the second conjunct does not mention `entries`. -/
theorem loadDetection_iff {E : RegexEngine} {ic : Bool} {entries : List (Str × Yaml)} {d : Detection} :
    loadDetection E ic entries = .ok d ↔
      loadEntries E ic entries {} = .ok { ids := d.ids, idsRaw := d.idsRaw, cond := some d.condRaw } ∧
      ∃ tokens, tokenise d.condRaw = .ok tokens ∧ identsPresent d.ids tokens = true ∧
        parse tokens = .ok d.expr ∧ d.expr.isSolvable = true := by
  rw [loadDetection_eq, bind_eq_ok]
  constructor
  · rintro ⟨st, hst, hfin⟩
    obtain ⟨rfl, h⟩ := finishLoad_ok_iff.mp hfin
    exact ⟨hst, h⟩
  · exact fun ⟨hst, h⟩ => ⟨_, hst, finishLoad_ok_iff.mpr ⟨rfl, h⟩⟩

theorem loadDetection_cond {E : RegexEngine} {ic : Bool} {entries : List (Str × Yaml)} {d : Detection}
    (h : loadDetection E ic entries = .ok d) :
    ∃ tokens, tokenise d.condRaw = .ok tokens ∧ identsPresent d.ids tokens = true ∧
      parse tokens = .ok d.expr ∧ d.expr.isSolvable = true :=
  (loadDetection_iff.mp h).2

theorem loadDetection_shape {E : RegexEngine} {ic : Bool} {entries : List (Str × Yaml)} {d : Detection}
    (h : loadDetection E ic entries = .ok d) : PShape d.expr ∧ d.expr.isSolvable = true :=
  let ⟨tokens, _, _, hp, hs⟩ := loadDetection_cond h; ⟨parse_shape tokens _ hp, hs⟩

theorem loadDetection_bodies {E : RegexEngine} {ic : Bool} {entries : List (Str × Yaml)} {d : Detection}
    {P : Expr → Prop} (hP : ∀ v e, parseIdentifier E ic v = .ok e → P e)
    (h : loadDetection E ic entries = .ok d) : ∀ i b, lookupId d.ids i = some b → P b :=
  -- every stored body came out of `parseIdentifier`, and a look-up returns a stored body
  fun i b hl => loadEntries_invariant (fun ids _ => ∀ p ∈ ids, P p.2)
    (fun ids _ k v e hst _ _ he p hp => (List.mem_append.mp hp).elim (hst p) fun h1 =>
      List.mem_singleton.mp h1 ▸ hP v e he)
    entries (fun _ h => by cases h) (loadDetection_iff.mp h).1 (i, b) (lookupId_mem hl)

theorem loadRule_det {E : RegexEngine} {ic : Bool} {src : RuleSrc} {r : Rule}
    (h : loadRule E ic src = .ok r) : loadDetection E ic src.det = .ok r.det := by
  unfold loadRule at h
  split at h
  · cases h
  · cases h; assumption

theorem yamlDoc_obj (y : Yaml) (d : Doc) : yamlDoc? y = some d → ∃ kvs, d = .obj kvs := by
  fun_induction yamlDoc? y
  case case1 => exact fun h => ⟨_, (Option.some.inj h).symm⟩
  case case2 ih => exact ih
  case case3 => exact nofun

theorem coalesce_leaf (ids : Ids) (e : Expr) (h : e.isSolvable = false) : coalesce ids e = e := by
  cases e with
  | bool _ | cast _ _ | field _ | float _ | int _ | null => rfl
  | _ => cases h

theorem coalesce_ident (ids : Ids) (i : Str) : coalesce ids (.ident i) = (lookupId ids i).getD (.ident i) := by
  show (match lookupId ids i with | some b => b | none => .ident i) = _
  cases lookupId ids i <;> rfl

theorem PShape.coalesce_ind (ids : Ids) {P : Expr → Expr → Prop}
    (ident : ∀ i, P (.ident i) ((lookupId ids i).getD (.ident i)))
    (matchIdent : ∀ k i, P (.match k (.ident i)) (.match k ((lookupId ids i).getD (.ident i))))
    (lit : ∀ e, PShape e → e.isSolvable = false → P e e)
    (negate : ∀ {e e'}, e.isSolvable = true → P e e' → P (.negate e) (.negate e'))
    (binBool : ∀ {l r l' r'} op, op = .and ∨ op = .or → l.isSolvable = true → r.isSolvable = true →
      P l l' → P r r' → P (.bin l op r) (.bin l' op r'))
    (cmp : ∀ l op r, op ≠ .and → op ≠ .or → l.isSolvable = false → r.isSolvable = false →
      P (.bin l op r) (.bin l op r)) :
    ∀ {c}, PShape c → P c (coalesce ids c) := by
  intro c h
  -- `coalesce` goes through `not`, `and`/`or`, comparisons and all()/of() by definition
  induction h with
  | ident i => exact coalesce_ident ids i ▸ ident i
  | matchIdent k i => exact (coalesce_ident ids i ▸ matchIdent k i :)
  | litFloat b => exact lit _ (.litFloat b) rfl
  | litInt i => exact lit _ (.litInt i) rfl
  | litCast f m => exact lit _ (.litCast f m) rfl
  | negate hp hn ih => exact negate (hp.negatable_solvable hn) ih
  | binBool op hop _ _ hls hrs ihl ihr => exact binBool op hop hls hrs ihl ihr
  | cmp l op r h1 h2 hl hr =>
    show P _ (.bin (coalesce ids l) op (coalesce ids r))
    rw [coalesce_leaf ids l hl, coalesce_leaf ids r hr]
    exact cmp l op r h1 h2 hl hr

namespace C01

/-- What `optimise` without coalesce does to the condition and to every identifier body (in
    namespace `C01` because C01's statements name it). -/
def optBody (E : RegexEngine) (s rw m : Bool) (b : Expr) : Expr :=
  (if m then matrixPass else id) ((if rw then rewrite E else id) ((if s then shake else id) b))

end C01
open C01

theorem optBody_keeps {P : Expr → Prop} (E : RegexEngine) {s rw m : Bool} (hs : ∀ e, P e → P (shake e))
    (hr : ∀ e, P e → P (rewrite E e)) (hm : ∀ e, P e → P (matrixPass e)) (e : Expr) (h : P e) :
    P (optBody E s rw m e) := by
  have opt : ∀ (b : Bool) (g : Expr → Expr), (∀ e, P e → P (g e)) → ∀ e, P e → P ((if b then g else id) e)
    | false, _, _, _, h => h
    | true, _, hg, e, h => hg e h
  exact opt m _ hm _ (opt rw _ hr _ (opt s _ hs e h))

/-- One pass under its switch: it maps one function, or the identity, over the condition and over
    every body. -/
theorem optStep (b : Bool) (g : Expr → Expr) (e : Expr) (ids : Ids) :
    (if b then (g e, ids.map fun (k, v) => (k, g v)) else (e, ids)) =
      ((if b then g else id) e, ids.map fun q => (q.1, (if b then g else id) q.2)) := by
  cases b
  · exact congrArg (Prod.mk e) (List.map_id' ids).symm
  · rfl

theorem optimiseTree_eq (E : RegexEngine) (sw : Switches) (ids : Ids) (e : Expr) :
    optimiseTree E sw ids e =
      let p := if sw.coalesce then (coalesce ids e, []) else (e, ids)
      (optBody E sw.shake sw.rewrite sw.matrix p.1,
        p.2.map fun (q : Str × Expr) => (q.1, optBody E sw.shake sw.rewrite sw.matrix q.2)) := by
  -- three steps of `optStep`, and maps compose; only the coalesce switch changes the pair
  simp only [optimiseTree, optStep]
  simp only [List.map_map]
  rfl

theorem Rule.optimise_solve (E : RegexEngine) (sw : Switches) {r : Rule} (hopt : r.optimised = false) (d : Doc) :
    (r.optimise E sw).solve E d =
      solveTop E (optimiseTree E sw r.det.ids r.det.expr).2 d (optimiseTree E sw r.det.ids r.det.expr).1 := by
  simp only [Rule.optimise, hopt, Bool.false_eq_true, if_false, Rule.solve]

theorem Rule.optimise_coalesced_solve (E : RegexEngine) {s rw m : Bool} {r : Rule} (hopt : r.optimised = false)
    (d : Doc) :
    (r.optimise E ⟨true, s, rw, m⟩).solve E d = solveClosed E d (optBody E s rw m (coalesce r.det.ids r.det.expr)) := by
  rw [Rule.optimise_solve E _ hopt, optimiseTree_eq]
  rfl

end Tau
