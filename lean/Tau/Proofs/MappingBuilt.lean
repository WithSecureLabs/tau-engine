import Tau.Proofs.Solver
import Tau.Proofs.Pattern
import Tau.Proofs.MemberLoop
import Tau.Proofs.Basics
/-
  What `parse_identifier` can return, as a grammar of trees (`BuiltM/V/E/B/I`) and a set of errors
  (`MapErr`), shown by one induction over the mapping parser (the member loop through
  `parseMembers_cons`). A predicate of the output (`safe`, `shakeOK`) is then an induction over the
  grammar (`Built.ind`), and "never the panic value" a case analysis of `MapErr`.
-/
namespace Tau

/-- `parseVal`'s local `let unmatched`; `val_post` relies on the two unfolding to the same term. -/
def unmatchedOf (e : Expr) : Expr := match e with | .match _ x => x | x => x

theorem parseKey_leaf (k : Yaml) (b : Bool) (e : Expr) (f : Str) (misc : Option ModSym)
    (h : parseKey k b = .ok (e, f, misc)) :
    (b = false → isLeafE e = true) ∧ isLeafE (unmatchedOf e) = true := by
  revert h
  fun_cases parseKey k b <;> intro h <;> cases h
  · exact ⟨fun _ => rfl, rfl⟩
  · exact ⟨fun _ => rfl, rfl⟩
  · exact ⟨fun _ => rfl, rfl⟩
  · rename_i hb _; exact ⟨fun hf => Bool.noConfusion (hf.symm.trans hb), rfl⟩

/-- The one `panic` value of the mapping model is unreachable. -/
theorem search_or_num (lhs : Expr) (ci : Bool) (p : Pattern) (h : numExpr lhs p = none) :
    searchOfPattern ci p ≠ none := by
  cases p with
  | cmpI _ _ | cmpF _ _ => cases h
  | _ => exact nofun

theorem castCheck_error {misc : Option ModSym} {p : Pattern} {err : Err}
    (h : castCheck misc p = .error err) : err = .parseInvalidIdent := by
  unfold castCheck at h
  (repeat' split at h) <;> cases h <;> rfl

theorem parseEntries_eq_mapM (E : RegexEngine) (ic : Bool) :
    ∀ kvs, parseEntries E ic kvs = kvs.mapM (parsePair E ic)
  | [] => rfl
  | p :: rest => by
    rw [parseEntries, List.mapM_cons, ← parseEntries_eq_mapM E ic rest]
    cases parsePair E ic p <;> try rfl
    cases parseEntries E ic rest <;> rfl

theorem parseEntries_ok_map {E : RegexEngine} {ic : Bool} {kvs : List (Yaml × Yaml)} {es : List Expr}
    (h : parseEntries E ic kvs = .ok es) : kvs.map (parsePair E ic) = es.map .ok :=
  mapM_ok_map (parseEntries_eq_mapM E ic kvs ▸ h)

/-- One mapping of a sequence identifier (parser.rs:760-781). -/
def parseSeqItem (E : RegexEngine) (ic : Bool) : Yaml → Except Err Expr
  | .map m => parseMapping E ic m
  | _ => .error .parseInvalidIdent

theorem parseIdentifier_go_eq_mapM (E : RegexEngine) (ic : Bool) :
    ∀ ys, parseIdentifier.go E ic ys = ys.mapM (parseSeqItem E ic)
  | [] => rfl
  | y :: rest => by
    rw [List.mapM_cons, ← parseIdentifier_go_eq_mapM E ic rest]
    cases y with
    | map m =>
      rw [parseIdentifier.go, parseSeqItem, parseMapping]
      cases finishMapping (parseEntries E ic m) <;> try rfl
      cases parseIdentifier.go E ic rest <;> rfl
    | _ => rfl

theorem parseIdentifier_go_ok_map {E : RegexEngine} {ic : Bool} {ys : List Yaml} {es : List Expr}
    (h : parseIdentifier.go E ic ys = .ok es) : ys.map (parseSeqItem E ic) = es.map .ok :=
  mapM_ok_map (parseIdentifier_go_eq_mapM E ic ys ▸ h)

theorem parseEntries_cons_ok {E : RegexEngine} {ic : Bool} {p : Yaml × Yaml} {rest : List (Yaml × Yaml)}
    {es : List Expr} (h : parseEntries E ic (p :: rest) = .ok es) :
    ∃ x xs, parsePair E ic p = .ok x ∧ parseEntries E ic rest = .ok xs ∧ es = x :: xs := by
  rw [parseEntries_eq_mapM, List.mapM_cons] at h
  obtain ⟨x, hx, h⟩ := bind_eq_ok.mp h
  obtain ⟨xs, hxs, h⟩ := bind_eq_ok.mp h
  exact ⟨x, xs, hx, parseEntries_eq_mapM E ic rest ▸ hxs, (Except.ok.inj h).symm⟩

theorem parseIdentifier_seq_ok {E : RegexEngine} {ic : Bool} {ys : List Yaml} {x : Expr}
    (h : parseIdentifier E ic (.seq ys) = .ok x) :
    ∃ es, x = .group .or es ∧ ys.map (parseSeqItem E ic) = es.map .ok := by
  cases ys with
  | nil => cases h
  | cons a r =>
    simp only [parseIdentifier] at h
    split at h
    · cases h
    · rename_i es hes
      cases h
      exact ⟨es, rfl, parseIdentifier_go_ok_map hes⟩

theorem finishMapping_ok {r : Except Err (List Expr)} {x : Expr} (h : finishMapping r = .ok x) :
    ∃ es, r = .ok es ∧ (es = [x] ∨ x = .group .and es) := by
  revert h
  fun_cases finishMapping r <;> intro h <;> cases h
  · exact ⟨_, rfl, .inl rfl⟩
  · exact ⟨_, rfl, .inr rfl⟩

theorem parseVal_map_ok {E : RegexEngine} {ic : Bool} {e : Expr} {f : Str} {misc : Option ModSym}
    {m : List (Yaml × Yaml)} {x : Expr} (h : parseVal E ic e f misc (.map m) = .ok x) :
    ∃ y, finishMapping (parseEntries E ic m) = .ok y ∧ x = wrapNot misc (.nested f y) := by
  simp only [parseVal] at h
  split at h
  · cases h
  · split at h
    · cases h
    · rename_i y hy; cases h; exact ⟨y, hy, rfl⟩

theorem wrapNot_ind {P : Expr → Prop} (misc : Option ModSym) (x : Expr) (h : P x) (hn : P (.negate x)) :
    P (wrapNot misc x) :=
  ite_elim (fun _ => hn) fun _ => h

/-- The four shapes a list takes (parser.rs:1575-1588). -/
theorem shapeGroup_ind {P : Expr → Prop} (e g : Expr) (gs : List Expr) (multiple : Bool)
    (lone : P g) (quantLone : ∀ k, P (.match k g))
    (quant : ∀ k, gs.isEmpty = false → P (.match k (.group .or (g :: gs))))
    (plain : P (.group .or (g :: gs))) : P (shapeGroup e g gs multiple) := by
  unfold shapeGroup
  split
  · exact ite_elim (fun _ => quantLone _) fun h => quant _ (Bool.eq_false_iff.2 h)
  · exact ite_elim (fun _ => lone) fun _ =>
      ite_elim (fun _ => quantLone _) fun h => quant _ (Bool.eq_false_iff.2 h)
  · exact ite_elim (fun _ => lone) fun _ => plain

theorem shapeGroup_plain {e : Expr} (he : ∀ k y, e ≠ .match k y) (g : Expr) (gs : List Expr) (m : Bool) :
    shapeGroup e g gs m = if !m && gs.isEmpty then g else .group .or (g :: gs) := by
  unfold shapeGroup
  split
  · exact absurd rfl (he _ _)
  · exact absurd rfl (he _ _)
  · rfl

theorem shapeGroup_quant (k : MatchK) (y g : Expr) {gs : List Expr} (m : Bool) (hgs : gs.isEmpty = false) :
    shapeGroup (.match k y) g gs m = .match k (.group .or (g :: gs)) := by
  cases k <;> simp [shapeGroup, hgs]

/-- `Q` of the error, `P` of the value: one statement serves the output predicates and "never the
    panic value". -/
def Post {α : Type} (Q : Err → Prop) (P : α → Prop) : Except Err α → Prop
  | .error e => Q e
  | .ok a => P a

section
variable {α : Type} {Q : Err → Prop} {P P' : α → Prop} {r : Except Err α}

theorem Post.ok {a : α} (h : Post Q P r) (hr : r = .ok a) : P a := by subst hr; exact h

theorem Post.error {e : Err} (h : Post Q P r) (hr : r = .error e) : Q e := by subst hr; exact h

theorem Post.imp (hP : ∀ a, P a → P' a) (h : Post Q P r) : Post Q P' r := by
  cases r with
  | error e => exact h
  | ok a => exact hP a h

end

theorem Post.mapM_cons {α β : Type} {Q : Err → Prop} {P : β → Prop} {f : α → Except Err β} {a : α}
    {l : List α} (ha : Post Q P (f a)) (hl : Post Q (fun ys => ∀ y ∈ ys, P y) (l.mapM f)) :
    Post Q (fun ys => ∀ y ∈ ys, P y) ((a :: l).mapM f) := by
  rw [List.mapM_cons]
  cases h1 : f a with
  | error e => exact ha.error h1
  | ok x =>
    cases h2 : l.mapM f with
    | error e => exact hl.error h2
    | ok xs => exact List.forall_mem_cons.2 ⟨ha.ok h1, hl.ok h2⟩

/-- The errors `parse_mapping` can end in: `InvalidIdentifier` (its own, and the only error of
    `into_identifier`), or what `parse_key` failed with. -/
inductive MapErr : Err → Prop
  | invalid : MapErr .parseInvalidIdent
  | key {k b e} : parseKey k b = .error e → MapErr e

/- `L` is what is known of the left-hand side of a comparison. It is a parameter because the two
   uses differ: `safe` asks nothing of it (and `parseVal` is then covered for any key expression),
   `shakeOK` needs the leaf that `parse_key` delivers (hence `hL` below: leaves satisfy `L`). -/
mutual
/-- A list member (parser.rs:1135-1381, 1418-1550), or a scalar value before `not` is applied
    (parser.rs:861-1089): a comparison with a literal, a search, or a nested mapping. -/
inductive BuiltM (L : Expr → Prop) : Expr → Prop
  | cmp {l op r} : L l → isLeafE r = true → op ≠ .and ∧ op ≠ .or → BuiltM L (.bin l op r)
  | search {s f c} : BuiltM L (.search s f c)
  | nested {f x} : BuiltB L x → BuiltM L (.nested f x)
/-- A value under the key expression `e` (parser.rs:1575-1588). The key is on record because under
    a key that is no all()/of() the shaped group is none either. -/
inductive BuiltV (L : Expr → Prop) : Expr → Expr → Prop
  | scalar {e misc y} : BuiltM L y → BuiltV L e (wrapNot misc y)
  | list {e misc g gs multiple} :
    (∀ x ∈ g :: gs, BuiltM L x) → BuiltV L e (wrapNot misc (shapeGroup e g gs multiple))
/-- One `(key, value)` entry: a value under some key. -/
inductive BuiltE (L : Expr → Prop) : Expr → Prop
  | of {e x} : BuiltV L e x → BuiltE L x
/-- A mapping: its one entry, or the conjunction of its entries (parser.rs:1602-1607). -/
inductive BuiltB (L : Expr → Prop) : Expr → Prop
  | one {x} : BuiltE L x → BuiltB L x
  | and {a b es} : (∀ x ∈ a :: b :: es, BuiltE L x) → BuiltB L (.group .and (a :: b :: es))
end

/-- Induction over the grammar, for predicates of the tree alone: the recursors of the mutual type with
    constant motives (`M` of members, `V` of entries, `B` of mappings). -/
theorem Built.ind {L : Expr → Prop} {M V B : Expr → Prop}
    (cmp : ∀ {l op r}, L l → isLeafE r = true → op ≠ .and ∧ op ≠ .or → M (.bin l op r))
    (search : ∀ {s f c}, M (.search s f c))
    (nested : ∀ {f x}, BuiltB L x → B x → M (.nested f x))
    (scalar : ∀ {misc y}, BuiltM L y → M y → V (wrapNot misc y))
    (list : ∀ {e misc g gs multiple}, (∀ x ∈ g :: gs, BuiltM L x) → (∀ x ∈ g :: gs, M x) →
      V (wrapNot misc (shapeGroup e g gs multiple)))
    (one : ∀ {x}, BuiltE L x → V x → B x)
    (and : ∀ {a b es}, (∀ x ∈ a :: b :: es, BuiltE L x) → (∀ x ∈ a :: b :: es, V x) →
      B (.group .and (a :: b :: es))) :
    (∀ x, BuiltM L x → M x) ∧ (∀ x, BuiltE L x → V x) ∧ (∀ x, BuiltB L x → B x) :=
  ⟨fun _ => @BuiltM.rec L (fun x _ => M x) (fun _ x _ => V x) (fun x _ => V x) (fun x _ => B x)
      cmp search nested (fun h => scalar h) list (fun _ ih => ih) one and _,
    fun _ => @BuiltE.rec L (fun x _ => M x) (fun _ x _ => V x) (fun x _ => V x) (fun x _ => B x)
      cmp search nested (fun h => scalar h) list (fun _ ih => ih) one and _,
    fun _ => @BuiltB.rec L (fun x _ => M x) (fun _ x _ => V x) (fun x _ => V x) (fun x _ => B x)
      cmp search nested (fun h => scalar h) list (fun _ ih => ih) one and _⟩

/-- An identifier: a mapping, or the disjunction of a non-empty sequence of mappings
    (parser.rs:744-785). -/
inductive BuiltI (L : Expr → Prop) : Expr → Prop
  | body {x} : BuiltB L x → BuiltI L x
  | or {es} : es ≠ [] → (∀ x ∈ es, BuiltB L x) → BuiltI L (.group .or es)

section
variable {L : Expr → Prop} {Q : Err → Prop}

theorem BuiltM.eq {l r : Expr} (hl : L l) (hr : isLeafE r = true) : BuiltM L (.bin l .eq r) :=
  .cmp hl hr ⟨nofun, nofun⟩

theorem numExpr_built {lhs x : Expr} {p : Pattern} (hl : L lhs)
    (hops : (∀ op n, p = .cmpI op n → op ≠ .and ∧ op ≠ .or) ∧
      (∀ op b, p = .cmpF op b → op ≠ .and ∧ op ≠ .or))
    (h : numExpr lhs p = some x) : BuiltM L x := by
  cases p with
  | cmpI op n => cases h; exact .cmp hl rfl (hops.1 _ _ rfl)
  | cmpF op b => cases h; exact .cmp hl rfl (hops.2 _ _ rfl)
  | _ => cases h

theorem finishMapping_post {r : Except Err (List Expr)} (hQ : Q .parseInvalidIdent)
    (h : Post Q (fun es => ∀ x ∈ es, BuiltE L x) r) : Post Q (BuiltB L) (finishMapping r) :=
  match r, h with
  | .error _, h => h
  | .ok [], _ => hQ
  | .ok [_], h => .one (h _ (.head _))
  | .ok (_ :: _ :: _), h => .and h

theorem shapeSeq_post (e : Expr) (misc : Option ModSym) (st : SeqSt) {group : List Expr}
    (multiple : Bool) (hQ : Q .parseInvalidIdent) (hg : ∀ x ∈ group, BuiltM L x) :
    Post Q (BuiltV L e) (shapeSeq e misc st group multiple) :=
  ite_elim (fun _ => hQ) fun _ =>
    match group, hg with
    | [], _ => hQ
    | _ :: _, hg => .list hg

end

theorem batchMembers_all (P : Expr → Prop) (hP : ∀ s f c, P (.search s f c)) (st : SeqSt) (f : Str)
    (h : ∀ x ∈ st.rest, P x) : ∀ x ∈ (batchMembers st f).1, P x := by
  -- every block is `[]` or one `.search`
  unfold batchMembers
  intro e he
  simp only [List.mem_append] at he
  rcases he with ((((he | he) | he) | he) | he) | he
  · simp at he; obtain ⟨_, _, rfl⟩ := he; exact hP _ _ _
  · unfold litBlock at he; split at he <;> simp at he <;> subst he <;> exact hP _ _ _
  · unfold ilitBlock at he; split at he <;> simp at he; subst he; exact hP _ _ _
  · unfold rxBlock at he; split at he <;> simp at he <;> subst he <;> exact hP _ _ _
  · unfold rxBlock at he; split at he <;> simp at he <;> subst he <;> exact hP _ _ _
  · exact h e he

/-- One member's contribution. The grammar needs the last conjunct only; cast and buckets ride along
    so that `delta_post` stays the one case split over the members. -/
def DeltaOK (L : Expr → Prop) (c : Bool) (δ : SeqSt) : Prop :=
  δ.cast = c ∧ δ.WF ∧ ∀ x ∈ δ.rest, BuiltM L x

section
variable {L : Expr → Prop} {c : Bool}

theorem DeltaOK.rest {x : Expr} {b m n s : Bool} (hx : BuiltM L x) :
    DeltaOK L c { cast := c, rest := [x], boolean := b, mapping := m, number := n, string := s } :=
  ⟨rfl, { wf_empty c with }, List.forall_mem_singleton.2 hx⟩

theorem DeltaOK.bucket {δ : SeqSt} (hc : δ.cast = c) (hwf : δ.WF) (hr : δ.rest = []) : DeltaOK L c δ :=
  ⟨hc, hwf, hr ▸ List.forall_mem_nil _⟩

end

section
variable (E : RegexEngine) (ic : Bool) {L : Expr → Prop}

mutual
theorem entries_post (hL : ∀ l, isLeafE l = true → L l) : ∀ (kvs : List (Yaml × Yaml)),
    Post MapErr (fun es => ∀ x ∈ es, BuiltE L x) (parseEntries E ic kvs)
  | [] => List.forall_mem_nil _
  | p :: rest => by
    rw [parseEntries_eq_mapM]
    exact Post.mapM_cons (pair_post hL p) (parseEntries_eq_mapM E ic rest ▸ entries_post hL rest)

theorem pair_post (hL : ∀ l, isLeafE l = true → L l) : ∀ (p : Yaml × Yaml),
    Post MapErr (BuiltE L) (parsePair E ic p)
  | (k, v) => by
    simp only [parsePair]
    split
    · rename_i err he; exact .key he
    · rename_i e f misc hk
      have hkey := parseKey_leaf k v.isSeq e f misc hk
      exact (val_post hL e f misc v (fun h => hL _ (hkey.1 h)) (hL _ hkey.2)).imp fun _ => .of

theorem val_post (hL : ∀ l, isLeafE l = true → L l) (e : Expr) (f : Str) (misc : Option ModSym) :
    ∀ (v : Yaml), (v.isSeq = false → L e) → L (unmatchedOf e) →
      Post MapErr (BuiltV L e) (parseVal E ic e f misc v)
  | .null, hk, _ => .scalar (.eq (hk rfl) rfl)
  | .bool b, hk, _ =>
    .scalar (ite_elim (fun _ => .eq (hk rfl) rfl) fun _ =>
      ite_elim (fun _ => .search) fun _ => .eq (hk rfl) rfl)
  | .num (.int i), hk, _ => .scalar (ite_elim (fun _ => .search) fun _ => .eq (hk rfl) rfl)
  | .num (.big a b c), hk, _ | .num (.flt b c), hk, _ =>
    ite_elim (fun _ => .invalid) fun _ =>
      ite_elim (fun _ => .scalar .search) fun _ => .scalar (.eq (hk rfl) rfl)
  | .tagged _, _, _ => .invalid
  | .str s, hk, _ => by
    simp only [parseVal]
    split
    · rename_i err he; exact intoIdentifier_error he ▸ .invalid
    · rename_i ident hid
      split
      · rename_i err he; rw [castCheck_error he]; exact .invalid
      · split
        · rename_i y hy
          exact .scalar (numExpr_built (hk rfl) (intoIdentifier_ops E ic s ident hid) hy)
        · rename_i hnum
          split
          · exact .scalar .search
          · rename_i hs; exact absurd hs (search_or_num e ident.ci ident.pat hnum)
  | .map m, _, _ => by
    have hm := finishMapping_post .invalid (entries_post hL m)
    refine ite_elim (fun _ => .invalid) fun _ => ?_
    split
    · rename_i err he; exact hm.error he
    · rename_i y hy; exact .scalar (.nested (hm.ok hy))
  | .seq s, _, hu => by
    have hs := members_post hL f misc _ hu (fun _ => id) s { cast := misc == some .str } nofun
    simp only [parseVal]
    split
    · rename_i err he; exact hs.error he
    · rename_i st hst
      exact shapeSeq_post e misc st _ .invalid
        (batchMembers_all _ (fun _ _ _ => .search) st f (hs.ok hst))

theorem delta_post (hL : ∀ l, isLeafE l = true → L l) (f : Str) (misc : Option ModSym)
    (lhs : Expr) (hl : L lhs) (c : Bool) (v : Yaml) :
    Post MapErr (DeltaOK L c) (memberDelta E ic f misc lhs c v) := by
  have toExact : ∀ (s : Str), DeltaOK L c { cast := c, string := true, exact := [⟨false, .exact s⟩] } :=
    fun s => .bucket rfl { wf_empty c with exact := List.forall_mem_singleton.2 ⟨_, rfl⟩ } rfl
  cases v with
  | null => exact DeltaOK.rest (.eq hl rfl)
  | bool b =>
    exact ite_elim (fun _ => DeltaOK.rest (.eq hl rfl)) fun _ =>
      ite_elim (fun _ => toExact _) fun _ => DeltaOK.rest (.eq hl rfl)
  | num n =>
    cases n with
    | int i => exact ite_elim (fun _ => toExact _) fun _ => DeltaOK.rest (.eq hl rfl)
    | big _ _ _ | flt _ _ =>
      exact ite_elim (fun _ => .invalid) fun _ =>
        ite_elim (fun _ => toExact _) fun _ => DeltaOK.rest (.eq hl rfl)
  | tagged _ | seq _ => exact .invalid
  | str s =>
    simp only [memberDelta]
    split
    · rename_i err he; exact intoIdentifier_error he ▸ .invalid
    · rename_i ident hid
      have hops := intoIdentifier_ops E ic s ident hid
      split
      · rename_i err he; rw [castCheck_error he]; exact .invalid
      · -- the five literal and regex buckets, then `*`, then the two numeric comparisons
        split <;> rename_i hp
        · exact .bucket rfl { wf_empty c with exact := List.forall_mem_singleton.2 ⟨_, hp⟩ } rfl
        · exact .bucket rfl { wf_empty c with startsWith := List.forall_mem_singleton.2 ⟨_, hp⟩ } rfl
        · exact .bucket rfl { wf_empty c with endsWith := List.forall_mem_singleton.2 ⟨_, hp⟩ } rfl
        · exact .bucket rfl { wf_empty c with contains := List.forall_mem_singleton.2 ⟨_, hp⟩ } rfl
        · exact .bucket rfl { wf_empty c with regex := List.forall_mem_singleton.2 ⟨_, hp⟩ } rfl
        · exact DeltaOK.rest .search
        · exact DeltaOK.rest (.cmp hl rfl (hops.1 _ _ hp))
        · exact DeltaOK.rest (.cmp hl rfl (hops.2 _ _ hp))
  | map m =>
    have hm := finishMapping_post .invalid (entries_post hL m)
    refine ite_elim (fun _ => .invalid) fun _ => ?_
    split
    · rename_i err he; exact hm.error he
    · rename_i y hy; exact DeltaOK.rest (.nested (hm.ok hy))

theorem members_post (hL : ∀ l, isLeafE l = true → L l) (f : Str) (misc : Option ModSym)
    (lhs : Expr) (hl : L lhs) {P : Expr → Prop} (hP : ∀ x, BuiltM L x → P x) :
    ∀ (vs : List Yaml) (st : SeqSt), (∀ x ∈ st.rest, P x) →
      Post MapErr (fun st' => ∀ x ∈ st'.rest, P x) (parseMembers E ic f misc lhs vs st)
  | [], st, hs => hs
  | v :: vs, st, hs => by
    have hδ := delta_post hL f misc lhs hl (castAt misc v st).cast v
    rw [parseMembers_cons]
    cases hd : memberDelta E ic f misc lhs (castAt misc v st).cast v with
    | error e => exact hδ.error hd
    | ok δ =>
      refine members_post hL f misc lhs hl hP vs _
        (List.forall_mem_append.2 ⟨?_, fun x hx => hP x ((hδ.ok hd).2.2 x hx)⟩)
      rw [castAt_rest]; exact hs
end

variable (hL : ∀ l, isLeafE l = true → L l)
include hL

theorem parseMapping_post (kvs : List (Yaml × Yaml)) :
    Post MapErr (BuiltB L) (parseMapping E ic kvs) :=
  finishMapping_post .invalid (entries_post E ic hL kvs)

theorem parseIdentifier_go_post : ∀ (ys : List Yaml),
    Post MapErr (fun es => ∀ x ∈ es, BuiltB L x) (parseIdentifier.go E ic ys)
  | [] => List.forall_mem_nil _
  | y :: rest => by
    rw [parseIdentifier_go_eq_mapM]
    refine Post.mapM_cons ?_ (parseIdentifier_go_eq_mapM E ic rest ▸ parseIdentifier_go_post rest)
    cases y with
    | map m => exact parseMapping_post E ic hL m
    | _ => exact .invalid

theorem parseIdentifier_post : ∀ (y : Yaml), Post MapErr (BuiltI L) (parseIdentifier E ic y)
  | .map m => (parseMapping_post E ic hL m).imp fun _ => .body
  | .seq [] => .invalid
  | .seq (x :: xs) => by
    have hg := parseIdentifier_go_post E ic hL (x :: xs)
    simp only [parseIdentifier]
    split
    · rename_i e he; exact hg.error he
    · rename_i es hes
      have hlen := congrArg List.length (parseIdentifier_go_ok_map hes)
      exact .or (fun hn => by simp [hn] at hlen) (hg.ok hes)
  | .null | .bool _ | .num _ | .str _ | .tagged _ => .invalid

end

theorem memberDelta_ok {E : RegexEngine} {ic : Bool} {f : Str} {misc : Option ModSym} {lhs : Expr}
    {c : Bool} {v : Yaml} {δ : SeqSt} (h : memberDelta E ic f misc lhs c v = .ok δ) :
    δ.cast = c ∧ δ.WF :=
  have h' := (delta_post E ic (L := fun _ => True) (fun _ _ => trivial) f misc lhs trivial c v).ok h
  ⟨h'.1, h'.2.1⟩

theorem memberDelta_cast (E : RegexEngine) (ic : Bool) (f : Str) (misc : Option ModSym) (lhs : Expr)
    (c : Bool) (v : Yaml) (δ : SeqSt) (h : memberDelta E ic f misc lhs c v = .ok δ) : δ.cast = c :=
  (memberDelta_ok h).1

theorem parseMembers_wf (E : RegexEngine) (ic : Bool) (f : Str) (misc : Option ModSym) (lhs : Expr) :
    ∀ (vs : List Yaml) (st st' : SeqSt), parseMembers E ic f misc lhs vs st = .ok st' → st.WF → st'.WF
  | [], st, st', h, hs => by cases h; exact hs
  | v :: vs, st, st', h, hs => by
    obtain ⟨δ, hδ, h⟩ := parseMembers_cons_ok h
    exact parseMembers_wf E ic f misc lhs vs _ st' h ((hs.castAt misc v).add (memberDelta_ok hδ).2)

theorem parseVal_seq_ok {E : RegexEngine} {ic : Bool} {e : Expr} {f : Str} {misc : Option ModSym}
    {s : List Yaml} {x : Expr} (h : parseVal E ic e f misc (.seq s) = .ok x) :
    ∃ st g gs, parseMembers E ic f misc (unmatchedOf e) s { cast := misc == some .str } = .ok st ∧
      st.WF ∧ (batchMembers st f).1 = g :: gs ∧
      x = wrapNot misc (shapeGroup e g gs (batchMembers st f).2) := by
  simp only [parseVal] at h
  split at h
  · cases h
  · rename_i st hst
    unfold shapeSeq at h
    split at h
    · cases h
    · split at h
      · cases h
      · rename_i g gs hg
        cases h
        exact ⟨st, g, gs, hst, parseMembers_wf E ic f misc _ s _ st hst (wf_empty _), hg, rfl⟩

end Tau
