import Tau.Proofs.Grouping
/-
  Names for the pieces of `shake_1`'s arms, the arms as equations, and what is true of the pieces
  whatever the members are (no class, no solver).
-/
namespace Tau

/-- `shake1`'s local `isKind`: 0–4 number the sections the rebuilt needles are cut into, in output order. -/
def kindIs (k : Nat) (x : Expr) : Bool :=
  match x, k with
  | .search (.exact _) _ _, 0 => true
  | .search (.startsWith _) _ _, 1 => true
  | .search (.endsWith _) _ _, 2 => true
  | .search (.contains _) _ _, 3 => true
  | .search (.ac _ _) _ _, 4 => true
  | _, _ => false

def buildNeedle (q : (Str × Bool × Bool) × List MatchType) : Expr :=
  match q with
  | ((f, c, ci), ctx) =>
    match ci, ctx with
    | false, [mt] => Expr.search (shake1.searchOfMatchType' mt) f c
    | _, _ => Expr.search (.ac ctx ci) f c

def buildPattern (q : (Str × Bool × Bool) × List Str) : Expr :=
  match q with
  | ((f, c, ci), ps) =>
    match ps with
    | [p] => Expr.search (.regex p ci) f c
    | _ => Expr.search (.regexSet ps ci) f c

def buildNested (fuel : Nat) (q : Str × List Expr) : Expr :=
  match q with
  | (f, xs) =>
    match xs with
    | [x] => Expr.nested f (shake1 fuel x)
    | _ => Expr.nested f (shake1 fuel (.group .or xs))

def isRegex (x : Expr) : Bool := match x with | .search (.regex _ _) _ _ => true | _ => false
def isRegexSet (x : Expr) : Bool := match x with | .search (.regexSet _ _) _ _ => true | _ => false
def byLen (xs : List Expr) := stableSort (fun a b => searchByteLen a ≤ searchByteLen b) xs

def orOut (fuel : Nat) (st : OrSt) : List Expr :=
  let fromNeedles := st.needles.map buildNeedle
  let fromPatterns := st.patterns.map buildPattern
  st.any ++ byLen (fromNeedles.filter (kindIs 0)) ++ byLen (fromNeedles.filter (kindIs 1))
    ++ byLen (fromNeedles.filter (kindIs 2)) ++ byLen (fromNeedles.filter (kindIs 3))
    ++ stableSort ahoLe (fromNeedles.filter (kindIs 4))
    ++ stableSort regexLe (fromPatterns.filter isRegex)
    ++ stableSort regexSetLe (fromPatterns.filter isRegexSet)
    ++ st.rest ++ st.nested.map (buildNested fuel)

/-- The operand of an all()/of() under a pass `g`: a group there is counted, not solved, so it stays. -/
def matchArg (g : Expr → Expr) : Expr → Expr
  | .group op es => .group op (es.map g)
  | x => g x

theorem shake1_match (fuel : Nat) (k : MatchK) (x : Expr) :
    shake1 (fuel + 1) (.match k x) = .match k (matchArg (shake1 fuel) x) := by
  cases x <;> rfl

theorem shake1_bin (fuel : Nat) (l : Expr) (op : BoolSym) (r : Expr) :
    shake1 (fuel + 1) (.bin l op r) = .bin (shake1 fuel l) op (shake1 fuel r) := rfl

theorem shake1_nested_form (fuel : Nat) (f : Str) (b : Expr) : ∃ b', shake1 fuel (.nested f b) = .nested f b' := by
  cases fuel with
  | zero => exact ⟨b, rfl⟩
  | succ n => exact ⟨shake1 n b, rfl⟩

theorem shake1_allOr (n : Nat) (xs : List Expr) :
    ∃ xs', shake1 n (.match .all (.group .or xs)) = .match .all (.group .or xs') := by
  cases n with
  | zero => exact ⟨xs, rfl⟩
  | succ m => exact ⟨xs.map (shake1 m), rfl⟩

theorem shake1_or (fuel : Nat) (es : List Expr) :
    shake1 (fuel + 1) (.group .or es) =
      (if (orOut fuel ((es.map (shake1 fuel)).foldl orClassify {})).length != es.length
       then shake1 fuel (.group .or (orOut fuel ((es.map (shake1 fuel)).foldl orClassify {})))
       else unwrapGroup .or (orOut fuel ((es.map (shake1 fuel)).foldl orClassify {}))) := by
  rfl

def isNestedE : Expr → Bool
  | .nested _ _ => true
  | _ => false

theorem isNestedE_iff (x : Expr) : isNestedE x = true ↔ ∃ f b, x = .nested f b := by
  fun_cases isNestedE x
  · exact ⟨fun _ => ⟨_, _, rfl⟩, fun _ => rfl⟩
  · rename_i hno; exact ⟨nofun, fun ⟨f, b, e⟩ => (hno f b e).elim⟩

def buildAndNested (fuel : Nat) (q : Str × List Expr) : Expr :=
  match q with
  | (f, xs) =>
    match xs with
    | [x] => Expr.nested f (shake1 fuel x)
    | _ => Expr.nested f (shake1 fuel (.match .all (.group .or xs)))

def andOut (fuel : Nat) (L : List Expr) : List Expr :=
  L.filter (fun x => !isNestedE x) ++ (L.foldl andNestedStep []).map (buildAndNested fuel)

theorem shake1_and (fuel : Nat) (es : List Expr) :
    shake1 (fuel + 1) (.group .and es) =
      (if (andOut fuel (es.map (shake1 fuel))).length != es.length
       then shake1 fuel (.group .and (andOut fuel (es.map (shake1 fuel))))
       else unwrapGroup .and (andOut fuel (es.map (shake1 fuel)))) := by
  have h : (fun x : Expr => match x with | .nested _ _ => false | _ => true) = fun x => !isNestedE x := by
    funext x; cases x <;> rfl
  simp only [andOut, ← h]
  rfl

theorem buildNeedle_form (q : (Str × Bool × Bool) × List MatchType) :
    ∃ s, buildNeedle q = .search s q.1.1 q.1.2.1 := by
  fun_cases buildNeedle q <;> exact ⟨_, rfl⟩

theorem regexKind_buildPattern (q : (Str × Bool × Bool) × List Str) :
    (isRegex (buildPattern q) = true ∨ isRegexSet (buildPattern q) = true) := by
  fun_cases buildPattern q
  · exact Or.inl rfl
  · exact Or.inr rfl

theorem buildPattern_search (q : (Str × Bool × Bool) × List Str) :
    ∃ s f c, buildPattern q = .search s f c := by
  fun_cases buildPattern q <;> exact ⟨_, _, _, rfl⟩

theorem kindIs_buildNeedle (q : (Str × Bool × Bool) × List MatchType) :
    kindIs 0 (buildNeedle q) = true ∨ kindIs 1 (buildNeedle q) = true ∨ kindIs 2 (buildNeedle q) = true ∨
      kindIs 3 (buildNeedle q) = true ∨ kindIs 4 (buildNeedle q) = true := by
  fun_cases buildNeedle q
  · rename_i mt
    cases mt
    · exact Or.inr (Or.inr (Or.inr (Or.inl rfl)))
    · exact Or.inr (Or.inr (Or.inl rfl))
    · exact Or.inl rfl
    · exact Or.inr (Or.inl rfl)
  · exact Or.inr (Or.inr (Or.inr (Or.inr rfl)))

theorem mem_orOut (fuel : Nat) (st : OrSt) (x : Expr) :
    x ∈ orOut fuel st ↔
      (x ∈ st.any ∨ x ∈ st.needles.map buildNeedle ∨ x ∈ st.patterns.map buildPattern ∨
       x ∈ st.rest ∨ x ∈ st.nested.map (buildNested fuel)) := by
  have hN : x ∈ st.needles.map buildNeedle → (kindIs 0 x = true ∨ kindIs 1 x = true ∨ kindIs 2 x = true ∨
      kindIs 3 x = true ∨ kindIs 4 x = true) := by
    intro h; obtain ⟨q, _, rfl⟩ := List.mem_map.mp h; exact kindIs_buildNeedle q
  have hP : x ∈ st.patterns.map buildPattern → (isRegex x = true ∨ isRegexSet x = true) := by
    intro h; obtain ⟨q, _, rfl⟩ := List.mem_map.mp h; exact regexKind_buildPattern q
  -- the sorted sections cut out of one list become `x ∈ l ∧ (kind₀ ∨ kind₁ ∨ …)`, and the kinds cover `l`
  have or_and_merge : ∀ {a b c d : Prop}, (a ∧ b) ∨ ((a ∧ c) ∨ d) ↔ (a ∧ (b ∨ c)) ∨ d := by
    intro a b c d; rw [← or_assoc, ← and_or_left]
  simp only [orOut, byLen, List.mem_append, mem_stableSort, List.mem_filter, or_assoc, or_and_merge]
  rw [and_iff_left_of_imp hN, and_iff_left_of_imp hP]

theorem orOut_eq_nil (fuel : Nat) (st : OrSt) :
    orOut fuel st = [] ↔
      st.any = [] ∧ st.needles = [] ∧ st.patterns = [] ∧ st.rest = [] ∧ st.nested = [] := by
  rw [List.eq_nil_iff_forall_not_mem]
  simp only [mem_orOut, not_or, forall_and, ← List.eq_nil_iff_forall_not_mem, List.map_eq_nil_iff]

theorem buildNested_nested (fuel : Nat) (q : Str × List Expr) :
    ∃ f b, buildNested fuel q = .nested f b := by
  fun_cases buildNested fuel q <;> exact ⟨_, _, rfl⟩

/-- `orClassify`'s eleven arms, read once. -/
theorem orClassify_view (st : OrSt) (x : Expr) :
    orClassify st x = { st with rest := st.rest ++ [x] } ∨
    (∃ f c, x = .search .any f c ∧ orClassify st x = { st with any := st.any ++ [x] }) ∨
    (∃ f b, x = .nested f b ∧ (∀ ms, b ≠ .match .all (.group .or ms)) ∧
      orClassify st x = { st with nested := groupInsert strCmp f [b] st.nested }) ∨
    (∃ s f c ci ctx, x = .search s f c ∧
      (s = .ac ctx ci ∨ ci = false ∧ ∃ mt, ctx = [mt] ∧ s = shake1.searchOfMatchType' mt) ∧
      orClassify st x = { st with needles := groupInsert keyCmp (f, c, ci) ctx st.needles }) ∨
    (∃ s f c ci ps, x = .search s f c ∧ (s = .regexSet ps ci ∨ ∃ p, ps = [p] ∧ s = .regex p ci) ∧
      orClassify st x = { st with patterns := groupInsert keyCmp (f, c, ci) ps st.patterns }) := by
  fun_cases orClassify st x
  · exact .inl rfl
  · rename_i f b hno
    exact .inr (.inr (.inl ⟨f, b, rfl, fun ms h => hno _ (by rw [h]), rfl⟩))
  · exact .inr (.inr (.inr (.inl ⟨_, _, _, _, _, rfl, .inl rfl, rfl⟩)))
  · exact .inr (.inr (.inr (.inl ⟨_, _, _, _, _, rfl, .inr ⟨rfl, .contains _, rfl, rfl⟩, rfl⟩)))
  · exact .inr (.inr (.inr (.inl ⟨_, _, _, _, _, rfl, .inr ⟨rfl, .endsWith _, rfl, rfl⟩, rfl⟩)))
  · exact .inr (.inr (.inr (.inl ⟨_, _, _, _, _, rfl, .inr ⟨rfl, .exact _, rfl, rfl⟩, rfl⟩)))
  · exact .inr (.inr (.inr (.inl ⟨_, _, _, _, _, rfl, .inr ⟨rfl, .startsWith _, rfl, rfl⟩, rfl⟩)))
  · exact .inr (.inl ⟨_, _, rfl, rfl⟩)
  · exact .inr (.inr (.inr (.inr ⟨_, _, _, _, _, rfl, .inr ⟨_, rfl, rfl⟩, rfl⟩)))
  · exact .inr (.inr (.inr (.inr ⟨_, _, _, _, _, rfl, .inl rfl, rfl⟩)))
  · exact .inl rfl

/-- What holds of the buckets after classifying `L`, whatever the members are. -/
structure OrB (L : List Expr) (st : OrSt) : Prop where
  any : ∀ x ∈ st.any, ∃ f c, x = .search .any f c
  rest : ∀ x ∈ st.rest, x ∈ L
  nestedNe : ∀ q ∈ st.nested, q.2 ≠ []
  nested : ∀ q ∈ st.nested, ∀ b ∈ q.2, Expr.nested q.1 b ∈ L ∧ ∀ ms, b ≠ .match .all (.group .or ms)
  count : st.needles = [] → st.patterns = [] → st.nested = [] → st.any.length + st.rest.length = L.length

theorem orB_step (L : List Expr) (st : OrSt) (x : Expr) (h : OrB L st) :
    OrB (L ++ [x]) (orClassify st x) := by
  have up : ∀ {y}, y ∈ L → y ∈ L ++ [x] := List.mem_append_left _
  have last : x ∈ L ++ [x] := List.mem_append_right _ (List.mem_singleton.mpr rfl)
  have rest' : ∀ y ∈ st.rest, y ∈ L ++ [x] := fun y hy => up (h.rest y hy)
  have nested' : ∀ q ∈ st.nested, ∀ b ∈ q.2, Expr.nested q.1 b ∈ L ++ [x] ∧ ∀ ms, b ≠ .match .all (.group .or ms) :=
    fun q hq b hb => (h.nested q hq b hb).imp_left up
  have count' : ∀ {a r : List Expr}, a.length + r.length = st.any.length + st.rest.length + 1 →
      st.needles = [] → st.patterns = [] → st.nested = [] → a.length + r.length = (L ++ [x]).length := by
    intro a r hl h1 h2 h3
    rw [hl, h.count h1 h2 h3, List.length_append, List.length_singleton]
  -- a bucket that `groupInsert` has touched is not empty, so `count` has nothing to say
  rcases orClassify_view st x with e | ⟨f, c, hx, e⟩ | ⟨f, b, rfl, hno, e⟩ | ⟨_, _, _, _, _, _, _, e⟩ |
    ⟨_, _, _, _, _, _, _, e⟩ <;> rw [e]
  · exact ⟨h.any, fun y hy => (List.mem_append.mp hy).elim (rest' y) fun hy => List.mem_singleton.mp hy ▸ last,
      h.nestedNe, nested', count' (by rw [List.length_append]; rfl)⟩
  · exact ⟨fun y hy => (List.mem_append.mp hy).elim (h.any y) fun hy => ⟨f, c, (List.mem_singleton.mp hy).trans hx⟩,
      rest', h.nestedNe, nested', count' (by rw [List.length_append, Nat.add_right_comm]; rfl)⟩
  · refine ⟨h.any, rest', groupInsert_vals_ne strCmp f [b] (List.cons_ne_nil _ _) h.nestedNe, ?_,
      fun _ _ h3 => absurd h3 (groupInsert_ne_nil _ _ _ _)⟩
    rw [groupInsert_all strCmp strCmp_eq f [b] st.nested
      (fun k m => Expr.nested k m ∈ L ++ [Expr.nested f b] ∧ ∀ ms, m ≠ .match .all (.group .or ms)),
      List.forall_mem_singleton]
    exact ⟨⟨last, hno⟩, nested'⟩
  · exact ⟨h.any, rest', h.nestedNe, nested', fun h1 => absurd h1 (groupInsert_ne_nil _ _ _ _)⟩
  · exact ⟨h.any, rest', h.nestedNe, nested', fun _ h2 => absurd h2 (groupInsert_ne_nil _ _ _ _)⟩

theorem orB_fold (L : List Expr) :
    ∀ (P : List Expr) (st : OrSt), OrB P st → OrB (P ++ L) (L.foldl orClassify st) := by
  induction L with
  | nil => intro P st h; simpa using h
  | cons x xs ih =>
    intro P st h
    simpa using ih (P ++ [x]) _ (orB_step P st x h)

theorem orB_classified (L : List Expr) : OrB L (L.foldl orClassify {}) :=
  orB_fold L [] {} ⟨nofun, nofun, nofun, nofun, fun _ _ _ => rfl⟩

theorem orOut_cases (fuel : Nat) (st : OrSt) (x : Expr) (hx : x ∈ orOut fuel st) :
    x ∈ st.any ∨ (∃ s f c, x = .search s f c) ∨ x ∈ st.rest ∨ ∃ q ∈ st.nested, x = buildNested fuel q := by
  rcases (mem_orOut fuel st x).mp hx with h | h | h | h | h
  · exact Or.inl h
  · obtain ⟨q, _, rfl⟩ := List.mem_map.mp h
    obtain ⟨s, hs⟩ := buildNeedle_form q
    exact Or.inr (Or.inl ⟨s, _, _, hs⟩)
  · obtain ⟨q, _, rfl⟩ := List.mem_map.mp h
    exact Or.inr (Or.inl (buildPattern_search q))
  · exact Or.inr (Or.inr (Or.inl h))
  · obtain ⟨q, hq, rfl⟩ := List.mem_map.mp h
    exact Or.inr (Or.inr (Or.inr ⟨q, hq, rfl⟩))

theorem orOut_single (fuel : Nat) (L : List Expr) (st : OrSt) (hany : ∀ x ∈ st.any, ∃ f c, x = .search .any f c)
    (hrest : ∀ x ∈ st.rest, x ∈ L)
    (hcount : st.needles = [] → st.patterns = [] → st.nested = [] → st.any.length + st.rest.length = L.length)
    (z : Expr) (hout : orOut fuel st = [z]) (h1 : ∀ s f c, z ≠ .search s f c) (h2 : ∀ f b, z ≠ .nested f b) :
    L = [z] := by
  -- a bucket whose rebuilt members are searches or nested blocks is empty: such a member would be `z`
  have hz : ∀ {x}, x ∈ orOut fuel st → z = x := fun hx => (List.mem_singleton.mp (hout ▸ hx)).symm
  have e1 : st.needles = [] := List.eq_nil_iff_forall_not_mem.mpr fun q hq => by
    obtain ⟨s, hs⟩ := buildNeedle_form q
    exact h1 _ _ _ ((hz ((mem_orOut fuel st _).mpr (.inr (.inl (List.mem_map_of_mem hq))))).trans hs)
  have e2 : st.patterns = [] := List.eq_nil_iff_forall_not_mem.mpr fun q hq => by
    obtain ⟨s, f, c, hs⟩ := buildPattern_search q
    exact h1 _ _ _ ((hz ((mem_orOut fuel st _).mpr (.inr (.inr (.inl (List.mem_map_of_mem hq)))))).trans hs)
  have e3 : st.nested = [] := List.eq_nil_iff_forall_not_mem.mpr fun q hq => by
    obtain ⟨f, b, hs⟩ := buildNested_nested fuel q
    exact h2 _ _ ((hz ((mem_orOut fuel st _).mpr (.inr (.inr (.inr (.inr (List.mem_map_of_mem hq))))))).trans hs)
  -- so `z` is all of `any ++ rest`, which `count` says is as long as `L`
  have hout : st.any ++ st.rest = [z] := by simpa [orOut, e1, e2, e3, byLen, stableSort] using hout
  have hlen : L.length = 1 := by rw [← hcount e1 e2 e3, ← List.length_append, hout]; rfl
  have hzL : z ∈ L := by
    rcases List.mem_append.mp (hout ▸ List.mem_singleton_self z) with h | h
    · obtain ⟨f, c, rfl⟩ := hany z h; exact absurd rfl (h1 _ _ _)
    · exact hrest z h
  obtain ⟨w, rfl⟩ := List.length_eq_one_iff.mp hlen
  rw [List.mem_singleton.mp hzL]

theorem orOut_ne_nil (fuel : Nat) {L : List Expr} (hne : L ≠ []) {st : OrSt} (hS : OrB L st) :
    orOut fuel st ≠ [] := by
  intro hout
  obtain ⟨e4, e1, e2, e5, e3⟩ := (orOut_eq_nil fuel st).mp hout
  have hc := hS.count e1 e2 e3
  rw [e4, e5] at hc
  exact hne (List.length_eq_zero_iff.mp hc.symm)

theorem buildAndNested_nested (n : Nat) (q : Str × List Expr) : ∃ f b, buildAndNested n q = .nested f b := by
  fun_cases buildAndNested n q <;> exact ⟨_, _, rfl⟩

/-- `andNestedStep`'s three arms, read once. -/
theorem andNestedStep_view (y : Expr) :
    (isNestedE y = false ∧ ∀ acc, andNestedStep acc y = acc) ∨
    ∃ f b v, y = .nested f b ∧ (∀ acc, andNestedStep acc y = groupInsert strCmp f v acc) ∧
      (v = [b] ∧ (∀ ms, b = .match .all (.group .or ms) → ms.length < 2) ∨
        b = .match .all (.group .or v) ∧ 2 ≤ v.length) := by
  unfold andNestedStep
  split
  · exact .inr ⟨_, _, _, rfl, fun _ => rfl, .inr ⟨rfl, Nat.le_add_left 2 _⟩⟩
  · rename_i f b hno
    refine .inr ⟨f, b, [b], rfl, fun _ => rfl, .inl ⟨rfl, fun ms e => ?_⟩⟩
    match ms, e with
    | _ :: _ :: _, e => exact (hno _ _ _ e).elim
    | [], _ => exact Nat.zero_lt_two
    | [_], _ => exact Nat.one_lt_two
  · rename_i hno
    exact .inl ⟨Bool.eq_false_iff.mpr fun h => by obtain ⟨f, b, rfl⟩ := (isNestedE_iff _).mp h; exact hno f b rfl,
      fun _ => rfl⟩

theorem andStep_eq_nil (acc : List (Str × List Expr)) (y : Expr) :
    andNestedStep acc y = [] ↔ acc = [] ∧ isNestedE y = false := by
  rcases andNestedStep_view y with ⟨hn, hs⟩ | ⟨f, b, v, rfl, hs, _⟩ <;> rw [hs]
  · simp [hn]
  · exact ⟨fun h => absurd h (groupInsert_ne_nil _ _ _ _), fun h => nomatch h.2⟩

theorem andFold_eq_nil (L : List Expr) :
    ∀ acc, L.foldl andNestedStep acc = [] ↔ acc = [] ∧ ∀ y ∈ L, isNestedE y = false := by
  induction L with
  | nil => intro acc; simp
  | cons x xs ih =>
    intro acc
    rw [List.foldl_cons, ih, andStep_eq_nil, List.forall_mem_cons, and_assoc]

theorem andFold_ne_nil (L : List Expr) : L.foldl andNestedStep [] ≠ [] ↔ ∃ y ∈ L, isNestedE y = true := by
  rw [Ne, andFold_eq_nil]
  simp

theorem mem_andOut (fuel : Nat) (L : List Expr) (z : Expr) :
    z ∈ andOut fuel L ↔ (z ∈ L ∧ isNestedE z = false) ∨ ∃ q ∈ L.foldl andNestedStep [], buildAndNested fuel q = z := by
  simp only [andOut, List.mem_append, List.mem_filter, List.mem_map, Bool.not_eq_true']

theorem andOut_eq_self (fuel : Nat) (L : List Expr) (h : ∀ y ∈ L, isNestedE y = false) : andOut fuel L = L := by
  rw [andOut, (andFold_eq_nil L []).mpr ⟨rfl, h⟩, List.map_nil, List.append_nil]
  exact List.filter_eq_self.mpr fun y hy => by rw [h y hy]; rfl

theorem andOut_ne_nil (fuel : Nat) (L : List Expr) (hne : L ≠ []) : andOut fuel L ≠ [] := by
  intro h
  obtain ⟨_, h2⟩ := List.append_eq_nil_iff.mp h
  rw [andOut_eq_self fuel L ((andFold_eq_nil L []).mp (List.map_eq_nil_iff.mp h2)).2] at h
  exact hne h

end Tau
