import Tau.Optimiser
import Tau.Proofs.Tri
/-
  The base facts about the solver's definitions: the list tables are folds of `binAnd` / `binOr`, the
  group loops are the tables over the member results, each arm of `solveG` that overlaps a later one
  is an equation with its side condition; then how results and their truth pass through groups,
  all()/of() and nested blocks. Also covers what every pass shares of `Tau/Optimiser.lean`:
  `unwrapGroup`, `Expr.size`, the comparisons keyed by `isLiteral`.
-/
namespace Tau

/-! ### The list tables as folds of the binary tables -/

theorem and_cons' (x : Tri) (xs : List Tri) : Tri.and (x :: xs) = binAnd x (Tri.and xs) := by
  rw [Tri.and_cons]; cases x <;> rfl
theorem or_cons' (x : Tri) (xs : List Tri) : Tri.or (x :: xs) = binOr x (Tri.or xs) := by
  rw [Tri.or_cons]; cases x <;> cases Tri.or xs <;> rfl

@[simp] theorem binOr_m_right (x : Tri) : binOr x .m = x := by cases x <;> rfl
@[simp] theorem binOr_m_left (x : Tri) : binOr .m x = x := by cases x <;> rfl

theorem binAnd_assoc (x y z : Tri) : binAnd (binAnd x y) z = binAnd x (binAnd y z) := by
  cases x <;> rfl
theorem binOr_assoc (x y z : Tri) : binOr (binOr x y) z = binOr x (binOr y z) := by
  cases x <;> cases y <;> cases z <;> rfl

theorem or_single (x : Tri) : Tri.or [x] = x := by simp [or_cons']
theorem and_single (x : Tri) : Tri.and [x] = x := by cases x <;> rfl

-- primed: `C01.and_append`, `Tri.and_cons` (and the `or` twins) state the same in another form

theorem and_append' (xs ys : List Tri) : Tri.and (xs ++ ys) = binAnd (Tri.and xs) (Tri.and ys) := by
  induction xs with
  | nil => rfl
  | cons x xs ih => rw [List.cons_append, and_cons', and_cons', ih, binAnd_assoc]

theorem or_append' (xs ys : List Tri) : Tri.or (xs ++ ys) = binOr (Tri.or xs) (Tri.or ys) := by
  induction xs with
  | nil => simp
  | cons x xs ih => rw [List.cons_append, or_cons', or_cons', ih, binOr_assoc]

theorem binAnd_t (x y : Tri) : binAnd x y = .t ↔ x = .t ∧ y = .t := by cases x <;> simp [binAnd]
theorem binOr_t (x y : Tri) : binOr x y = .t ↔ x = .t ∨ y = .t := by cases x <;> cases y <;> simp [binOr]

theorem TEq.binAnd {a a' b b' : Tri} (ha : TEq a a') (hb : TEq b b') : TEq (binAnd a b) (binAnd a' b') :=
  (binAnd_t _ _).trans ((and_congr ha hb).trans (binAnd_t _ _).symm)
theorem TEq.binOr {a a' b b' : Tri} (ha : TEq a a') (hb : TEq b b') : TEq (binOr a b) (binOr a' b') :=
  (binOr_t _ _).trans ((or_congr ha hb).trans (binOr_t _ _).symm)

theorem _root_.List.Forall₂'.map {α} (l : List α) (f g : α → Tri) (h : ∀ a ∈ l, TEq (f a) (g a)) :
    List.Forall₂' (l.map f) (l.map g) := by
  induction l with
  | nil => exact .nil
  | cons a l ih => exact .cons (h a (by simp)) (ih fun b hb => h b (by simp [hb]))

theorem _root_.List.Forall₂'.or {xs ys : List Tri} (h : List.Forall₂' xs ys) : TEq (Tri.or xs) (Tri.or ys) := by
  induction h with
  | nil => exact Iff.rfl
  | cons hxy _ ih => rw [or_cons', or_cons']; exact TEq.binOr hxy ih

theorem _root_.List.Forall₂'.and {xs ys : List Tri} (h : List.Forall₂' xs ys) : TEq (Tri.and xs) (Tri.and ys) := by
  induction h with
  | nil => exact Iff.rfl
  | cons hxy _ ih => rw [and_cons', and_cons']; exact TEq.binAnd hxy ih

theorem _root_.List.Forall₂'.count {xs ys : List Tri} (h : List.Forall₂' xs ys) : Tri.count xs = Tri.count ys := by
  induction h with
  | nil => rfl
  | cons hxy _ ih =>
    unfold Tri.count at ih ⊢
    rw [List.countP_cons, List.countP_cons, ih]
    congr 1
    simp only [beq_iff_eq, hxy]

theorem _root_.List.Forall₂'.ofN_pos {xs ys : List Tri} (h : List.Forall₂' xs ys) {n : Nat} (hn : n ≠ 0) :
    TEq (Tri.ofN n xs) (Tri.ofN n ys) := by
  show _ = Tri.t ↔ _ = Tri.t
  rw [Tri.ofN_pos_eq_t n hn, Tri.ofN_pos_eq_t n hn, h.count]

/-! ### The group loops (solver.rs:60-80, 603-649) -/

theorem listG_eq_map (E : RegexEngine) (K : IdentK) (d : Doc) (es : List Expr) :
    listG E K d es = es.map (solveG E K d) := by
  induction es with
  | nil => rfl
  | cons e es ih => rw [listG, ih, List.map_cons]

theorem andG_eq_map (E : RegexEngine) (K : IdentK) (d : Doc) (es : List Expr) :
    andG E K d es = Tri.and (es.map (solveG E K d)) := by
  induction es with
  | nil => rfl
  | cons e es ih => rw [andG, List.map_cons, and_cons', ← ih]; cases solveG E K d e <;> rfl

theorem orG_eq_map (E : RegexEngine) (K : IdentK) (d : Doc) (es : List Expr) :
    orG E K d es = Tri.or (es.map (solveG E K d)) := by
  induction es with
  | nil => rfl
  | cons e es ih =>
    rw [orG, List.map_cons, or_cons', ← ih]
    cases solveG E K d e <;> cases orG E K d es <;> rfl

theorem group_and_value (E : RegexEngine) (K : IdentK) (d : Doc) (es : List Expr) :
    solveG E K d (.group .and es) = Tri.and (es.map (solveG E K d)) := andG_eq_map E K d es
theorem group_or_value (E : RegexEngine) (K : IdentK) (d : Doc) (es : List Expr) :
    solveG E K d (.group .or es) = Tri.or (es.map (solveG E K d)) := orG_eq_map E K d es

theorem bin_and_value (E : RegexEngine) (K : IdentK) (d : Doc) (l r : Expr) :
    solveG E K d (.bin l .and r) = binAnd (solveG E K d l) (solveG E K d r) := rfl
theorem bin_or_value (E : RegexEngine) (K : IdentK) (d : Doc) (l r : Expr) :
    solveG E K d (.bin l .or r) = binOr (solveG E K d l) (solveG E K d r) := rfl

theorem and_group_true (E : RegexEngine) (K : IdentK) (d : Doc) (es : List Expr) :
    solveG E K d (.group .and es) = .t ↔ ∀ m ∈ es, solveG E K d m = .t := by
  rw [group_and_value, Tri.and_eq_t_iff]
  simp only [List.mem_map, forall_exists_index, and_imp, forall_apply_eq_imp_iff₂]

theorem or_group_true (E : RegexEngine) (K : IdentK) (d : Doc) (es : List Expr) :
    solveG E K d (.group .or es) = .t ↔ ∃ m ∈ es, solveG E K d m = .t := by
  rw [group_or_value, Tri.or_eq_t_iff]
  simp only [List.mem_map]

/-- `e`, or `e` under a quantifier: a group, a matrix and a search are evaluated the same way either
    way (solver.rs:603, 612, 655, 879-1280). -/
@[reducible] def underMatch : Option MatchK → Expr → Expr
  | none, e => e
  | some k, e => .match k e

/-- A group, bare or under a quantifier, is a function of the results of its members. -/
theorem group_congr (E : RegexEngine) (K : IdentK) (k : Option MatchK) (op : BoolSym) {d d' : Doc}
    {es es' : List Expr} (h : es'.map (solveG E K d') = es.map (solveG E K d)) :
    solveG E K d' (underMatch k (.group op es')) = solveG E K d (underMatch k (.group op es)) := by
  cases k with
  | none =>
    cases op with
    | and => rw [group_and_value, group_and_value, h]
    | or => rw [group_or_value, group_or_value, h]
    | _ => rfl
  | some k =>
    cases k with
    | all => show andG E K d' es' = andG E K d es; rw [andG_eq_map, andG_eq_map, h]
    | of c => show Tri.ofN c (listG E K d' es') = Tri.ofN c (listG E K d es); rw [listG_eq_map, listG_eq_map, h]

theorem group_congrL (E : RegexEngine) (K : IdentK) (op : BoolSym) (es es' : List Expr)
    (h : ∀ d, es'.map (solveG E K d) = es.map (solveG E K d)) :
    ∀ d, solveG E K d (.group op es') = solveG E K d (.group op es) :=
  fun d => group_congr E K none op (h d)

theorem bin_congr (E : RegexEngine) (K : IdentK) {op : BoolSym} (hop : op = .and ∨ op = .or) {a b a' b' : Expr}
    {d d' : Doc} (ha : solveG E K d' a' = solveG E K d a) (hb : solveG E K d' b' = solveG E K d b) :
    solveG E K d' (.bin a' op b') = solveG E K d (.bin a op b) := by
  rcases hop with rfl | rfl
  · rw [bin_and_value, bin_and_value, ha, hb]
  · rw [bin_or_value, bin_or_value, ha, hb]

theorem bin_truth (E : RegexEngine) (K : IdentK) {op : BoolSym} (hop : op = .and ∨ op = .or) {a b a' b' : Expr}
    (ha : ∀ d, TEq (solveG E K d a') (solveG E K d a))
    (hb : ∀ d, TEq (solveG E K d b') (solveG E K d b)) (d : Doc) :
    TEq (solveG E K d (.bin a' op b')) (solveG E K d (.bin a op b)) := by
  rcases hop with rfl | rfl
  · rw [bin_and_value, bin_and_value]; exact (ha d).binAnd (hb d)
  · rw [bin_or_value, bin_or_value]; exact (ha d).binOr (hb d)

theorem group_append_value (E : RegexEngine) (K : IdentK) {op : BoolSym} (hop : op = .and ∨ op = .or)
    (a b : List Expr) (d : Doc) :
    solveG E K d (.group op (a ++ b)) = solveG E K d (.bin (.group op a) op (.group op b)) := by
  rcases hop with rfl | rfl
  · simp only [group_and_value, bin_and_value, List.map_append, and_append']
  · simp only [group_or_value, bin_or_value, List.map_append, or_append']

theorem unwrapGroup_cases (op : BoolSym) (es : List Expr) :
    (∃ z, es = [z] ∧ unwrapGroup op es = z) ∨ (es.length ≠ 1 ∧ unwrapGroup op es = .group op es) := by
  match es with
  | [] => exact Or.inr ⟨by simp, rfl⟩
  | [z] => exact Or.inl ⟨z, rfl, rfl⟩
  | _ :: _ :: _ => exact Or.inr ⟨by simp, rfl⟩

theorem unwrapGroup_ind (op : BoolSym) (es : List Expr) (P : Expr → Prop) (hg : P (.group op es))
    (hm : ∀ z ∈ es, P z) : P (unwrapGroup op es) := by
  rcases unwrapGroup_cases op es with ⟨z, hz, hu⟩ | ⟨_, hu⟩ <;> rw [hu]
  · exact hm z (by rw [hz]; simp)
  · exact hg

theorem unwrapGroup_solve (E : RegexEngine) (K : IdentK) (d : Doc) (op : BoolSym) (es : List Expr)
    (h : op = .and ∨ op = .or) : solveG E K d (unwrapGroup op es) = solveG E K d (.group op es) := by
  rcases unwrapGroup_cases op es with ⟨z, rfl, hu⟩ | ⟨_, hu⟩ <;> rw [hu]
  rcases h with rfl | rfl
  · rw [group_and_value]; exact (and_single _).symm
  · rw [group_or_value]; exact (or_single _).symm

/-! ### Other forms of the same equations -/

theorem andG_eq (E : RegexEngine) (K : IdentK) (d : Doc) (es : List Expr) :
    andG E K d es = Tri.and (listG E K d es) := by rw [andG_eq_map, listG_eq_map]
theorem orG_eq (E : RegexEngine) (K : IdentK) (d : Doc) (es : List Expr) :
    orG E K d es = Tri.or (listG E K d es) := by rw [orG_eq_map, listG_eq_map]

theorem binAnd_eq (x y : Tri) : binAnd x y = Tri.and [x, y] := by rw [and_cons', and_single]
theorem binOr_eq (x y : Tri) : binOr x y = Tri.or [x, y] := by rw [or_cons', or_single]

/-! ### Searches -/

theorem solve_search (E : RegexEngine) (K : IdentK) (d : Doc) (s : Search) (f : Str) (c : Bool) :
    solveG E K d (.search s f c) = solveSearch E d s f c := rfl

theorem triOfOpt_some (b : Bool) : triOfOpt (some b) = Tri.ofBool b := by cases b <;> rfl

theorem onFieldValue_scalar (p : Str → Bool) (v : Value) (txt : Str) (hv : scalarText v = some txt) :
    onFieldValue true p v = some (p txt) := by
  unfold onFieldValue
  split
  · cases hv
  · cases hv
  · rw [hv]; rfl

theorem solveSearch_rekey (E : RegexEngine) (d d' : Doc) (s : Search) (f f' : Str) (c : Bool)
    (h : d.find f = d'.find f') : solveSearch E d s f c = solveSearch E d' s f' c := by
  simp only [solveSearch, h]

/-! ### Comparisons -/

/-- The expressions `operand` can extract from. -/
def isLeafE : Expr → Bool
  | .bool _ | .cast _ _ | .field _ | .float _ | .int _ | .null => true
  | _ => false

theorem isLeafE_eq (e : Expr) : isLeafE e = !e.isSolvable := by cases e <;> rfl

theorem operand_nonleaf (d : Doc) (x : Expr) (h : isLeafE x = false) : operand d x = .error .f := by
  cases x <;> first | rfl | cases h

theorem solveCmp_nonleaf_left (d : Doc) (l : Expr) (op : BoolSym) (r : Expr) (h : isLeafE l = false) :
    solveCmp d l op r = .f := by
  unfold solveCmp
  split <;> first | cases h | rw [operand_nonleaf d l h]

theorem solveCmp_nonleaf_right (d : Doc) (l : Expr) (op : BoolSym) (r : Expr) (h : isLeafE r = false) :
    solveCmp d l op r = (match operand d l with | .error res => res | .ok _ => .f) := by
  unfold solveCmp
  split <;> first | cases h | (rw [operand_nonleaf d r h]; cases operand d l <;> rfl)

theorem solveG_bin_cmp (E : RegexEngine) (K : IdentK) (d : Doc) {l r : Expr} {op : BoolSym}
    (h : op ≠ .and ∧ op ≠ .or) : solveG E K d (.bin l op r) = solveCmp d l op r := by
  cases op with
  | and => exact absurd rfl h.1
  | or => exact absurd rfl h.2
  | _ => rfl

theorem compareOp_int (x y : Operand) (a b : Int) (op : BoolSym)
    (hx : x.toInt? = some a) (hy : y.toInt? = some b) :
    compareOp x op y =
      (match op with
       | .eq => a == b | .gt => decide (a > b) | .ge => decide (a ≥ b)
       | .lt => decide (a < b) | .le => decide (a ≤ b) | _ => false) := by
  cases x <;> cases y <;> cases hx <;> cases hy <;> rfl

theorem solveCmp_field_missing (d : Doc) (f : Str) (op : BoolSym) (r : Expr) (h : d.find f = none) :
    solveCmp d (.field f) op r = .m := by
  unfold solveCmp
  split
  · rename_i heq; cases heq
  · rename_i heq; cases heq; rw [h]
  · rename_i heq; cases heq; rw [h]
  · simp only [operand, h]

theorem operand_lit (d d' : Doc) (r : Expr) (h : isLiteral r = true) : operand d r = operand d' r := by
  cases r <;> simp [isLiteral] at h <;> rfl

theorem solveG_lit (E : RegexEngine) (K : IdentK) (d : Doc) (r : Expr) (h : isLiteral r = true) :
    solveG E K d r = .m := by
  cases r with
  | bool _ | float _ | int _ | null => rfl
  | _ => cases h

/-- Under `and` / `or` neither side of such a comparison is solvable: missing. -/
theorem solveG_keyed_cmp (E : RegexEngine) (K : IdentK) (d : Doc) {l r : Expr} {f : Str} (op : BoolSym)
    (hl : l = .field f ∨ ∃ kind, l = .cast f kind) (hr : isLiteral r = true) :
    solveG E K d (.bin l op r) = if op = .and ∨ op = .or then .m else solveCmp d l op r := by
  split
  · rename_i h
    rcases h with rfl | rfl <;> rcases hl with rfl | ⟨kind, rfl⟩ <;>
      simp only [bin_and_value, bin_or_value, solveG_lit E K d r hr] <;> rfl
  · rename_i h
    exact solveG_bin_cmp E K d (not_or.mp h)

theorem solveCmp_operands (d : Doc) {l r : Expr} {op : BoolSym}
    (h1 : ∀ lf rf, l = .cast lf .str → op = .eq → r = .cast rf .str → False)
    (h2 : ∀ lf b, l = .field lf → op = .eq → r = .bool b → False)
    (h3 : ∀ lf, l = .field lf → op = .eq → r = .null → False) :
    solveCmp d l op r =
      match operand d l with
      | .error res => res
      | .ok x => match operand d r with
        | .error res => res
        | .ok y => Tri.ofBool (compareOp x op y) := by
  unfold solveCmp
  split
  · exact (h1 _ _ rfl rfl rfl).elim
  · exact (h2 _ _ rfl rfl rfl).elim
  · exact (h3 _ rfl rfl rfl).elim
  · rfl

/-- The arm for two string casts needs a cast on the right, which is no literal. -/
theorem solveCmp_cast_lit (d : Doc) (f : Str) (kind : ModSym) (op : BoolSym) {r : Expr}
    (hr : isLiteral r = true) :
    solveCmp d (.cast f kind) op r =
      match operand d (.cast f kind) with
      | .error res => res
      | .ok x => match operand d r with
        | .error res => res
        | .ok y => Tri.ofBool (compareOp x op y) :=
  solveCmp_operands d (fun _ _ _ _ hc => by rw [hc] at hr; cases hr) (fun _ _ hc => nomatch hc)
    (fun _ hc => nomatch hc)

/-- A literal reads nothing; the key is read through `find` only. -/
theorem solveCmp_keyed_rekey (d d' : Doc) {l l' r : Expr} {f f' : Str} (op : BoolSym)
    (hl : (l = .field f ∧ l' = .field f') ∨ ∃ kind, l = .cast f kind ∧ l' = .cast f' kind)
    (hr : isLiteral r = true) (h : d.find f = d'.find f') : solveCmp d l op r = solveCmp d' l' op r := by
  rcases hl with ⟨rfl, rfl⟩ | ⟨kind, rfl, rfl⟩
  · have ho : operand d (.field f) = operand d' (.field f') := by simp only [operand, h]
    by_cases hs : op = .eq ∧ (r = .null ∨ ∃ b, r = .bool b)
    · obtain ⟨rfl, rfl | ⟨b, rfl⟩⟩ := hs <;> simp only [solveCmp, h]
    · have h1 : ∀ (g : Str) lf rf, Expr.field g = .cast lf .str → op = .eq → r = .cast rf .str → False :=
        fun _ _ _ hc => nomatch hc
      have h2 : ∀ (g : Str) lf b, Expr.field g = .field lf → op = .eq → r = .bool b → False :=
        fun _ _ b _ ho hb => hs ⟨ho, .inr ⟨b, hb⟩⟩
      have h3 : ∀ (g : Str) lf, Expr.field g = .field lf → op = .eq → r = .null → False :=
        fun _ _ _ ho hn => hs ⟨ho, .inl hn⟩
      rw [solveCmp_operands d (h1 f) (h2 f) (h3 f), solveCmp_operands d' (h1 f') (h2 f') (h3 f'),
        ho, operand_lit d d' r hr]
  · have ho : operand d (.cast f kind) = operand d' (.cast f' kind) := by
      cases kind <;> simp only [operand, h]
    rw [solveCmp_cast_lit d f kind op hr, solveCmp_cast_lit d' f' kind op hr, ho, operand_lit d d' r hr]

theorem solveCmp_keyed_missing (d : Doc) {l r : Expr} {f : Str} (op : BoolSym)
    (hl : l = .field f ∨ ∃ kind, l = .cast f kind) (hr : isLiteral r = true) (h : d.find f = none) :
    solveCmp d l op r ≠ .t := by
  rcases hl with rfl | ⟨kind, rfl⟩
  · rw [solveCmp_field_missing d f op r h]; exact Tri.noConfusion
  · obtain ⟨res, ho, hne⟩ : ∃ res, operand d (.cast f kind) = .error res ∧ res ≠ .t := by
      cases kind <;> simp only [operand, h] <;> exact ⟨_, rfl, Tri.noConfusion⟩
    rw [solveCmp_cast_lit d f kind op hr, ho]
    exact hne

/-! ### The catch-all arm of `Match` -/

/-- The operands for which `Match` has a special arm. -/
def matchOwnArm : Expr → Bool
  | .ident _ | .group _ _ | .matrix _ _ => true
  | .search (.ac _ _) _ _ | .search (.regexSet _ _) _ _ => true
  | _ => false

/-- `ft`: `Match` over any other operand falls through (solver.rs:601 / 1333). -/
theorem match_ft (E : RegexEngine) (K : IdentK) (d : Doc) (k : MatchK) (x : Expr) (h : matchOwnArm x = false) :
    solveG E K d (.match k x) = (match k with | .all => solveG E K d x | .of c => ofSingle c (solveG E K d x)) := by
  -- the last arm for `k`; each of its side conditions names an operand with an arm of its own
  cases k <;> rw [solveG] <;> (intros; subst x; cases h)

theorem match_match (E : RegexEngine) (K : IdentK) (d : Doc) (k k2 : MatchK) (y : Expr) :
    solveG E K d (.match k (.match k2 y)) =
      (match k with | .all => solveG E K d (.match k2 y) | .of c => ofSingle c (solveG E K d (.match k2 y))) :=
  match_ft E K d k _ rfl

/-! ### The `Nested` arm -/

/-- The two bodies of a nested block that have an arm of their own (solver.rs:723, 742). -/
def nestedSpecial : Expr → Bool
  | .match .all (.group .or _) => true
  | .match .all (.matrix _ _) => true
  | _ => false

theorem nestedSpecial_cases (x : Expr) (h : nestedSpecial x = true) :
    (∃ es, x = .match .all (.group .or es)) ∨ ∃ cols rows, x = .match .all (.matrix cols rows) := by
  unfold nestedSpecial at h
  split at h
  · exact .inl ⟨_, rfl⟩
  · exact .inr ⟨_, _, rfl⟩
  · cases h

/-- Functions, not a `match`, so that the kind laws of `ValMap` can rewrite them. -/
def objOf : Value → Option (List (Str × Value))
  | .obj k => some k
  | _ => none
def arrOf : Value → Option (List Value)
  | .arr a => some a
  | _ => none

/-- The shape of the `Nested` arms (solver.rs:712-800). -/
def nestedWith (onObj : List (Str × Value) → Tri) (onArr : List Value → Tri) : Option Value → Tri
  | none => .m
  | some v =>
    match objOf v, arrOf v with
    | some k, _ => onObj k
    | _, some a => onArr a
    | _, _ => .f

/-- What the three forms of a nested block do with an array: every member of an `all` true for some
    element (solver.rs:723), every row of a matrix a hit for some element (:742), the block true for
    some element (:783). -/
def nestedOnArr (E : RegexEngine) (K : IdentK) : Expr → List Value → Tri
  | .match .all (.group .or es), a => nestedAllOrG E K (elemObjs a) es
  | .match .all (.matrix cols rows), a => nestedAllMatrixG E K a cols rows
  | x, a => Tri.ofBool ((elemObjs a).any fun k => solveG E K (.obj k) x == .t)

theorem nestedWith_eq (onObj : List (Str × Value) → Tri) (onArr : List Value → Tri) (o : Option Value) :
    nestedWith onObj onArr o =
      match o with
      | none => .m
      | some (.obj k) => onObj k
      | some (.arr a) => onArr a
      | some _ => .f := by
  cases o with
  | none => rfl
  | some v => cases v <;> rfl

theorem nestedOnArr_plain (E : RegexEngine) (K : IdentK) {x : Expr} (hx : nestedSpecial x = false)
    (a : List Value) :
    nestedOnArr E K x a = Tri.ofBool ((elemObjs a).any fun k => solveG E K (.obj k) x == .t) := by
  unfold nestedOnArr
  split <;> first | cases hx | rfl

/-- On an object every form of block is the block evaluated on the object; the forms differ on
    arrays only. -/
theorem solveG_nested (E : RegexEngine) (K : IdentK) (d : Doc) (f : Str) (x : Expr) :
    solveG E K d (.nested f x) =
      nestedWith (fun k => solveG E K (.obj k) x) (nestedOnArr E K x) (d.find f) := by
  rw [nestedWith_eq]
  cases hx : nestedSpecial x with
  | true => rcases nestedSpecial_cases x hx with ⟨es, rfl⟩ | ⟨cols, rows, rfl⟩ <;> rfl
  | false =>
    -- the last arm, whose side conditions are the two special bodies
    rw [solveG]
    · simp only [nestedOnArr_plain E K hx]; rfl
    all_goals intros; subst x; cases hx

theorem nested_rekey (E : RegexEngine) (K : IdentK) (d d' : Doc) (f f' : Str) (e : Expr)
    (h : d.find f = d'.find f') : solveG E K d (.nested f e) = solveG E K d' (.nested f' e) := by
  rw [solveG_nested, solveG_nested, h]

theorem nested_missing (E : RegexEngine) (K : IdentK) (d : Doc) (f : Str) (e : Expr)
    (h : d.find f = none) : solveG E K d (.nested f e) = .m := by
  rw [solveG_nested, h]; rfl

theorem nested_object (E : RegexEngine) (K : IdentK) (d : Doc) (f : Str) (x : Expr) (kvs : List (Str × Value))
    (h : d.find f = some (.obj kvs)) : solveG E K d (.nested f x) = solveG E K (.obj kvs) x := by
  rw [solveG_nested, h]; rfl

theorem nested_generic (E : RegexEngine) (K : IdentK) (d : Doc) (f : Str) (x : Expr)
    (hx : nestedSpecial x = false) :
    solveG E K d (.nested f x) =
      (match d.find f with
       | none => .m
       | some (.obj kvs) => solveG E K (.obj kvs) x
       | some (.arr a) => Tri.ofBool ((elemObjs a).any (fun kvs => solveG E K (.obj kvs) x == .t))
       | some _ => .f) := by
  rw [solveG_nested, nestedWith_eq]
  simp only [nestedOnArr_plain E K hx]

theorem nestedAllOrG_eq (E : RegexEngine) (K : IdentK) (objs : List (List (Str × Value))) (xs : List Expr) :
    nestedAllOrG E K objs xs =
      Tri.and (xs.map (fun x => Tri.ofBool (objs.any (fun kvs => solveG E K (.obj kvs) x == .t)))) := by
  induction xs with
  | nil => rfl
  | cons x rest ih =>
    rw [nestedAllOrG, List.map_cons, Tri.and_cons, ← ih]
    -- the accumulated `or` is true exactly when `x` is true of some element
    have h := (dist_t.map objs fun kvs => solveG E K (.obj kvs) x).trans
      (Tri.ofBool_any_eq_t objs fun kvs => solveG E K (.obj kvs) x).symm
    cases hb : objs.any (fun kvs => solveG E K (.obj kvs) x == .t) with
    | true => rw [h.mpr (by rw [hb]; rfl)]; rfl
    | false =>
      cases ho : Tri.or (objs.map fun kvs => solveG E K (.obj kvs) x) with
      | t => rw [hb] at h; cases h.mp ho
      | _ => rfl

theorem nestedAllOrG_congrL (E : RegexEngine) (K : IdentK) (objs : List (List (Str × Value))) :
    ∀ (es es' : List Expr), (∀ d, es'.map (solveG E K d) = es.map (solveG E K d)) →
      nestedAllOrG E K objs es' = nestedAllOrG E K objs es
  | [], [], _ => rfl
  -- any document will do to compare the lengths
  | [], _ :: _, h => nomatch h (.pass none)
  | _ :: _, [], h => nomatch h (.pass none)
  | x :: xs, y :: ys, h => by
    have hc := fun d => List.cons.inj (h d)
    have : (objs.map fun kvs => solveG E K (.obj kvs) y) = objs.map fun kvs => solveG E K (.obj kvs) x :=
      List.map_congr_left fun kvs _ => (hc _).1
    simp only [nestedAllOrG]
    rw [this, nestedAllOrG_congrL E K objs xs ys fun d => (hc d).2]

/-! ### The matrix cache -/

theorem rowG_cache_length (E : RegexEngine) (K : IdentK) (d : Doc) (cols : List Str) :
    ∀ (row : List (Option Expr)) (i : Nat) (cache : List (Option Value)),
      (rowG E K d cols row i cache).2.length = cache.length
  | [], _, _ => by simp [rowG]
  | none :: cells, i, cache => by simp only [rowG]; exact rowG_cache_length E K d cols cells (i + 1) cache
  | some e :: cells, i, cache => by
    simp only [rowG]
    split
    · rfl
    · rename_i cache' hfill
      -- `hfill` is the fill step of the cell's column; `cacheSet` is its only write
      have hlen : cache'.length = cache.length := by
        split at hfill
        · cases hfill; rfl
        · split at hfill
          · cases hfill
          · split at hfill <;> cases hfill
            exact List.length_set
      split
      · rw [rowG_cache_length E K d cols cells (i + 1) cache', hlen]
      · exact hlen

/-- A matrix, bare or under a quantifier, is a function of the results of its rows. -/
theorem matrix_congr (E : RegexEngine) (K : IdentK) (k : Option MatchK) (cols : List Str)
    (rows : List (List (Option Expr))) {d d' : Doc}
    (h : (rowsG E K d' cols rows (emptyCache cols)).1 = (rowsG E K d cols rows (emptyCache cols)).1) :
    solveG E K d' (underMatch k (.matrix cols rows)) = solveG E K d (underMatch k (.matrix cols rows)) := by
  cases k with
  | none => exact congrArg Tri.or h
  | some k =>
    cases k with
    | all => exact congrArg Tri.and h
    | of c => show (if c = 0 then _ else _) = (if c = 0 then _ else _); rw [h]

/-! ### The size measure, and induction over what the solver descends into -/

theorem size_mem_lt (es : List Expr) (e : Expr) (h : e ∈ es) : e.size ≤ Expr.size.sizeL es := by
  induction es with
  | nil => cases h
  | cons x xs ih =>
    rcases List.mem_cons.mp h with rfl | h'
    · exact Nat.le_add_right _ _
    · exact Nat.le_trans (ih h') (Nat.le_add_left _ _)

theorem sizeRow_mem (row : List (Option Expr)) (e : Expr) (h : some e ∈ row) :
    e.size ≤ Expr.size.sizeRow row := by
  induction row with
  | nil => cases h
  | cons c cs ih =>
    rcases List.mem_cons.mp h with rfl | h'
    · exact Nat.le_trans (Nat.le_add_left _ 1) (Nat.le_add_right _ _)
    · cases c <;> exact Nat.le_trans (ih h') (Nat.le_add_left _ _)

theorem sizeRows_mem (rows : List (List (Option Expr))) (row : List (Option Expr)) (h : row ∈ rows) :
    Expr.size.sizeRow row ≤ Expr.size.sizeRows rows := by
  induction rows with
  | nil => cases h
  | cons r rs ih =>
    rcases List.mem_cons.mp h with rfl | h'
    · exact Nat.le_add_right _ _
    · exact Nat.le_trans (ih h') (Nat.le_add_left _ _)

/-- Induction over the subtrees the solver descends into, an arm for each way `solveG` (and with it
    `hitsG`, `traceG`) does so: all()/of() look through a group of any symbol at its members and through a
    matrix at its cells; under a nested block all() over an or-group and over a matrix have arms of their
    own. The recursive arms are the constructors of `Step` (Sim.lean). -/
theorem Expr.solver_induct {P : Expr → Prop}
    (group : ∀ op es, (∀ x ∈ es, P x) → P (.group op es))
    (bin : ∀ l op r, op = .and ∨ op = .or → P l → P r → P (.bin l op r))
    (cmp : ∀ l op r, op ≠ .and ∧ op ≠ .or → P (.bin l op r))
    (ident : ∀ i, P (.ident i))
    (matchIdent : ∀ k i, P (.match k (.ident i)))
    (matchGroup : ∀ k op es, (∀ x ∈ es, P x) → P (.match k (.group op es)))
    (matchMatrix : ∀ k cols rows, (∀ row ∈ rows, ∀ x, some x ∈ row → P x) → P (.match k (.matrix cols rows)))
    (matchFt : ∀ k e, (∀ i, e ≠ .ident i) → (∀ op es, e ≠ .group op es) → (∀ cols rows, e ≠ .matrix cols rows) →
      P e → P (.match k e))
    (matrix : ∀ cols rows, (∀ row ∈ rows, ∀ x, some x ∈ row → P x) → P (.matrix cols rows))
    (negate : ∀ e, P e → P (.negate e))
    (nested : ∀ f e, nestedSpecial e = false → P e → P (.nested f e))
    (nestedAllOr : ∀ f es, (∀ x ∈ es, P x) → P (.nested f (.match .all (.group .or es))))
    (nestedAllMatrix : ∀ f cols rows, (∀ row ∈ rows, ∀ x, some x ∈ row → P x) →
      P (.nested f (.match .all (.matrix cols rows))))
    (search : ∀ s f c, P (.search s f c))
    (lit : ∀ e, isLeafE e = true → P e) : ∀ e, P e := by
  suffices ∀ n e, Expr.size e < n → P e from fun e => this _ e (Nat.lt_succ_self _)
  intro n
  induction n with
  | zero => exact fun _ hs => nomatch hs
  | succ n ih =>
    intro e hs
    -- but for `bin`, a node is one more than what is below it: `sub` for the node itself, `up` for
    -- each node passed on the way down to a list
    have sub : ∀ {a}, 1 + a < n + 1 → a < n := fun h => by omega
    have up : ∀ {a}, 1 + a < n → a < n := fun h => by omega
    have mem : ∀ es, Expr.size.sizeL es < n → ∀ x ∈ es, P x :=
      fun es h x hx => ih x (Nat.lt_of_le_of_lt (size_mem_lt es x hx) h)
    have cells : ∀ rows, Expr.size.sizeRows rows < n → ∀ row ∈ rows, ∀ x, some x ∈ row → P x :=
      fun rows h row hr x hx =>
        ih x (Nat.lt_of_le_of_lt (Nat.le_trans (sizeRow_mem row x hx) (sizeRows_mem rows row hr)) h)
    cases e with
    | group op es => exact group op es (mem es (sub hs))
    | bin l op r =>
      have hs : 1 + l.size + r.size < n + 1 := hs
      by_cases h : op = .and ∨ op = .or
      · exact bin l op r h (ih l (by omega)) (ih r (by omega))
      · exact cmp l op r (not_or.mp h)
    | ident i => exact ident i
    | «match» k x =>
      by_cases hi : ∃ i, x = .ident i
      · obtain ⟨i, rfl⟩ := hi; exact matchIdent k i
      by_cases hg : ∃ op es, x = .group op es
      · obtain ⟨op, es, rfl⟩ := hg; exact matchGroup k op es (mem es (up (sub hs)))
      by_cases hm : ∃ cols rows, x = .matrix cols rows
      · obtain ⟨cols, rows, rfl⟩ := hm; exact matchMatrix k cols rows (cells rows (up (sub hs)))
      exact matchFt k x (fun i h => hi ⟨i, h⟩) (fun op es h => hg ⟨op, es, h⟩)
        (fun cols rows h => hm ⟨cols, rows, h⟩) (ih x (sub hs))
    | matrix cols rows => exact matrix cols rows (cells rows (sub hs))
    | negate x => exact negate x (ih x (sub hs))
    | nested f x =>
      cases hx : nestedSpecial x with
      | false => exact nested f x hx (ih x (sub hs))
      | true =>
        rcases nestedSpecial_cases x hx with ⟨es, rfl⟩ | ⟨cols, rows, rfl⟩
        · exact nestedAllOr f es (mem es (up (up (sub hs))))
        · exact nestedAllMatrix f cols rows (cells rows (up (up (sub hs))))
    | search s f c => exact search s f c
    | _ => exact lit _ rfl

/-! ### Identifier look-up and the top-level continuation -/

theorem lookupId_mem {ids : Ids} {i : Str} {b : Expr} (h : lookupId ids i = some b) : (i, b) ∈ ids := by
  induction ids with
  | nil => cases h
  | cons x xs ih =>
    obtain ⟨k, e⟩ := x
    simp only [lookupId] at h
    split at h
    · rename_i hk; cases h; simp [eq_of_beq hk]
    · exact List.mem_cons_of_mem _ (ih h)

theorem lookup_map (ids : Ids) (g : Expr → Expr) (i : Str) :
    lookupId (ids.map (fun (p : Str × Expr) => (p.1, g p.2))) i = (lookupId ids i).map g := by
  induction ids with
  | nil => rfl
  | cons x xs ih => simp only [List.map_cons, lookupId, ih]; split <;> rfl

theorem lookupId_append (ids : Ids) (k : Str) (e : Expr) (i : Str) :
    lookupId (ids ++ [(k, e)]) i = (lookupId ids i).or (if k == i then some e else none) := by
  induction ids with
  | nil => simp [lookupId]
  | cons x xs ih => simp only [List.cons_append, lookupId, ih]; split <;> rfl

theorem topK_map_ident {R : Tri → Tri → Prop} (hm : R .m .m) {E : RegexEngine} {ids : Ids} {g : Expr → Expr}
    {d : Doc} (h : ∀ i b, lookupId ids i = some b → R (solveClosed E d (g b)) (solveClosed E d b)) (i : Str) :
    R ((topK E (ids.map fun (p : Str × Expr) => (p.1, g p.2))).ident i d) ((topK E ids).ident i d) := by
  simp only [topK, lookup_map]
  cases hl : lookupId ids i with
  | none => exact hm
  | some b => exact h i b hl

theorem topK_ident_some (E : RegexEngine) {ids : Ids} {i : Str} {b : Expr} (h : lookupId ids i = some b)
    (d : Doc) : (topK E ids).ident i d = solveClosed E d b := by
  simp only [topK, h]

theorem topK_match_some (E : RegexEngine) {ids : Ids} {i : Str} {b : Expr} (h : lookupId ids i = some b)
    (k : MatchK) (d : Doc) : (topK E ids).match k i d = solveClosed E d (.match k b) := by
  simp only [topK, h]

theorem topK_eq {E : RegexEngine} {ids : Ids} {d d' : Doc}
    (hi : ∀ i b, lookupId ids i = some b → solveClosed E d b = solveClosed E d' b)
    (hk : ∀ k i b, lookupId ids i = some b →
      solveClosed E d (.match k b) = solveClosed E d' (.match k b)) :
    (∀ i, (topK E ids).ident i d = (topK E ids).ident i d') ∧
      ∀ k i, (topK E ids).match k i d = (topK E ids).match k i d' := by
  constructor
  · intro i
    simp only [topK]
    cases hl : lookupId ids i with
    | none => rfl
    | some b => exact hi i b hl
  · intro k i
    simp only [topK]
    cases hl : lookupId ids i with
    | none => rfl
    | some b => exact hk k i b hl

/-! ### Truth through nested blocks and groups -/

/-- `NT` ("nested, true"): the block `x` holds under field `f` — on an object it holds, on an array
    it holds for some element. -/
def NT (E : RegexEngine) (K : IdentK) (f : Str) (x : Expr) (d : Doc) : Prop :=
  match d.find f with
  | some (.obj kvs) => solveG E K (.obj kvs) x = .t
  | some (.arr a) => ∃ kvs ∈ elemObjs a, solveG E K (.obj kvs) x = .t
  | _ => False

theorem nested_plain_truth (E : RegexEngine) (K : IdentK) (d : Doc) (f : Str) (x : Expr)
    (hx : nestedSpecial x = false) : solveG E K d (.nested f x) = .t ↔ NT E K f x d := by
  rw [nested_generic E K d f x hx]
  unfold NT
  cases d.find f with
  | none => simp
  | some v =>
    cases v with
    | obj kvs => exact Iff.rfl
    | arr a => exact Tri.ofBool_any_eq_t _ _
    | _ => simp

theorem nested_special_truth (E : RegexEngine) (K : IdentK) (d : Doc) (f : Str) (ms : List Expr) (hne : ms ≠ []) :
    solveG E K d (.nested f (.match .all (.group .or ms))) = .t ↔ ∀ m ∈ ms, NT E K f m d := by
  obtain ⟨m₀, hm₀⟩ := List.exists_mem_of_ne_nil ms hne
  rw [solveG_nested, nestedWith_eq]
  unfold NT
  cases d.find f with
  | none => exact ⟨(fun h => nomatch h), fun h => False.elim (h m₀ hm₀)⟩
  | some v =>
    cases v with
    | obj kvs =>
      show andG E K (.obj kvs) ms = .t ↔ _
      rw [andG_eq_map, Tri.and_eq_t_iff, List.forall_mem_map]
    | arr a =>
      show nestedAllOrG E K (elemObjs a) ms = .t ↔ _
      rw [nestedAllOrG_eq, Tri.and_eq_t_iff, List.forall_mem_map]
      exact forall_congr' fun m => forall_congr' fun _ => Tri.ofBool_any_eq_t _ _
    | _ => exact ⟨(fun h => nomatch h), fun h => False.elim (h m₀ hm₀)⟩

theorem NT_congr (E : RegexEngine) (K : IdentK) (f : Str) (x x' : Expr)
    (h : ∀ d, TEq (solveG E K d x') (solveG E K d x)) (d : Doc) : NT E K f x' d ↔ NT E K f x d := by
  unfold NT
  cases d.find f with
  | none => exact Iff.rfl
  | some v =>
    cases v with
    | obj kvs => exact h _
    | arr a => exact exists_congr fun kvs => and_congr_right fun _ => h _
    | _ => exact Iff.rfl

theorem nested_generic_congr (E : RegexEngine) (K : IdentK) (f : Str) (x x' : Expr)
    (hx : nestedSpecial x = false) (hx' : nestedSpecial x' = false)
    (h : ∀ d, solveG E K d x' = solveG E K d x) :
    ∀ d, solveG E K d (.nested f x') = solveG E K d (.nested f x) := by
  intro d
  rw [nested_generic E K d f x hx, nested_generic E K d f x' hx']
  simp only [h]

theorem nested_truth_congr (E : RegexEngine) (K : IdentK) (f : Str) (x x' : Expr)
    (hx : nestedSpecial x = false) (hx' : nestedSpecial x' = false)
    (h : ∀ d, TEq (solveG E K d x') (solveG E K d x)) :
    ∀ d, TEq (solveG E K d (.nested f x')) (solveG E K d (.nested f x)) := by
  intro d
  unfold TEq
  rw [nested_plain_truth E K d f x hx, nested_plain_truth E K d f x' hx']
  exact NT_congr E K f x x' h d

theorem group_truth (E : RegexEngine) (K : IdentK) (d : Doc) {op : BoolSym} (hop : op = .and ∨ op = .or)
    {es es' : List Expr} (h : List.Forall₂' (es'.map (solveG E K d)) (es.map (solveG E K d))) :
    TEq (solveG E K d (.group op es')) (solveG E K d (.group op es)) := by
  rcases hop with rfl | rfl
  · rw [group_and_value, group_and_value]; exact h.and
  · rw [group_or_value, group_or_value]; exact h.or

theorem group_map_truth (E : RegexEngine) (K : IdentK) (d : Doc) {op : BoolSym} (hop : op = .and ∨ op = .or)
    (es : List Expr) (g : Expr → Expr)
    (h : ∀ y ∈ es, TEq (solveG E K d (g y)) (solveG E K d y)) :
    TEq (solveG E K d (.group op (es.map g))) (solveG E K d (.group op es)) :=
  group_truth E K d hop (by rw [List.map_map]; exact List.Forall₂'.map es _ _ h)

theorem group_map_value (E : RegexEngine) (K : IdentK) (d : Doc) (op : BoolSym) (es : List Expr) (g : Expr → Expr)
    (h : ∀ y ∈ es, solveG E K d (g y) = solveG E K d y) :
    solveG E K d (.group op (es.map g)) = solveG E K d (.group op es) :=
  group_congr E K none op (by rw [List.map_map]; exact List.map_congr_left h)

theorem teq_and_groups (E : RegexEngine) (K : IdentK) (d : Doc) (a b : List Expr)
    (h : (∀ z ∈ a, solveG E K d z = .t) ↔ ∀ e ∈ b, solveG E K d e = .t) :
    TEq (solveG E K d (.group .and a)) (solveG E K d (.group .and b)) := by
  show _ = Tri.t ↔ _ = Tri.t
  rw [and_group_true, and_group_true]; exact h

theorem teq_or_groups (E : RegexEngine) (K : IdentK) (d : Doc) (a b : List Expr)
    (h : (∃ z ∈ a, solveG E K d z = .t) ↔ ∃ e ∈ b, solveG E K d e = .t) :
    TEq (solveG E K d (.group .or a)) (solveG E K d (.group .or b)) := by
  show _ = Tri.t ↔ _ = Tri.t
  rw [or_group_true, or_group_true]; exact h

theorem ofSingle_eq (c : Nat) (r : Tri) : ofSingle c r = Tri.ofN c [r] := by
  unfold ofSingle Tri.ofN Tri.count
  by_cases h : c = 0
  · subst h; cases r <;> rfl
  · cases r <;> simp [h]
    split <;> split <;> first | rfl | omega

theorem matchFt_truth (k : MatchK) (hk : k ≠ .of 0) (a b : Tri) (h : TEq a b) :
    TEq (match (generalizing := false) k with | .all => a | .of c => ofSingle c a)
      (match (generalizing := false) k with | .all => b | .of c => ofSingle c b) := by
  cases k with
  | all => exact h
  | of c =>
    show TEq (ofSingle c a) (ofSingle c b)
    rw [ofSingle_eq, ofSingle_eq]
    exact (List.Forall₂'.cons h .nil).ofN_pos fun h0 => hk (by rw [h0])

end Tau
