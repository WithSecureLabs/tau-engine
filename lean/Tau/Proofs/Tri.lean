import Tau.Base
/-
  The three-valued tables on their own (no model dependencies); `TEq`, "true exactly when": what
  the verdict of a rule sees of a result; the properties that distribute over `or` (`Dist`), two of
  which fix a result. At the end the few facts about lists, Booleans and folds that the rest of the
  development shares.
-/
namespace Tau
namespace Tri

@[simp] theorem or_nil : Tri.or [] = .m := rfl
@[simp] theorem and_nil : Tri.and [] = .t := rfl

theorem or_cons (x : Tri) (xs : List Tri) :
    Tri.or (x :: xs) =
      match x with
      | .t => .t
      | .f => (match Tri.or xs with | .t => .t | _ => .f)
      | .m => Tri.or xs := by
  cases x with
  | t | m => rfl
  | f =>
    -- both sides are `.t` if `xs` has a `.t` and `.f` otherwise
    unfold Tri.or
    show (if xs.any (· == .t) then Tri.t else .f) = _
    cases xs.any (· == .t) <;> cases xs.any (· == .f) <;> rfl

theorem and_cons (x : Tri) (xs : List Tri) :
    Tri.and (x :: xs) = match x with | .t => Tri.and xs | r => r := by
  cases x <;> rfl

theorem or_table (xs : List Tri) :
    Tri.or xs = (if .t ∈ xs then .t else if .f ∈ xs then .f else .m) := by
  simp [Tri.or, List.any_eq_true]

/-- Each table answers `.t` under one test and something else otherwise. -/
theorem ite_eq_t_iff {c : Prop} [Decidable c] {y : Tri} (hy : y ≠ .t) : (if c then .t else y) = .t ↔ c := by
  by_cases h : c
  · rw [if_pos h]; exact ⟨fun _ => h, fun _ => rfl⟩
  · rw [if_neg h]; exact ⟨fun e => absurd e hy, fun h' => absurd h' h⟩

theorem or_eq_t_iff (xs : List Tri) : Tri.or xs = .t ↔ .t ∈ xs := by
  rw [or_table]
  exact ite_eq_t_iff (by split <;> nofun)

theorem and_eq_t_iff (xs : List Tri) : Tri.and xs = .t ↔ ∀ x ∈ xs, x = .t := by
  induction xs with
  | nil => exact iff_of_true rfl (List.forall_mem_nil _)
  | cons x xs ih =>
    rw [and_cons, List.forall_mem_cons]
    cases x with
    | t => exact ih.trans (and_iff_right rfl).symm
    | _ => exact ⟨nofun, fun h => nomatch h.1⟩

theorem or_perm {xs ys : List Tri} (h : xs.Perm ys) : Tri.or xs = Tri.or ys := by
  unfold Tri.or
  rw [h.any_eq, h.any_eq]

/-- Only the truth of an `and` is order-independent: its value is the first non-true operand. -/
theorem and_t_perm {xs ys : List Tri} (h : xs.Perm ys) : (Tri.and xs = .t) ↔ (Tri.and ys = .t) := by
  rw [and_eq_t_iff, and_eq_t_iff]
  constructor
  · intro hx y hy; exact hx y (h.mem_iff.mpr hy)
  · intro hy x hx; exact hy x (h.mem_iff.mp hx)

theorem ofN_perm (n : Nat) {xs ys : List Tri} (h : xs.Perm ys) : Tri.ofN n xs = Tri.ofN n ys := by
  unfold Tri.ofN Tri.count
  rw [h.any_eq, h.any_eq, h.countP_eq]

theorem ofN_pos_eq_t (n : Nat) (hn : n ≠ 0) (xs : List Tri) : Tri.ofN n xs = .t ↔ n ≤ Tri.count xs := by
  unfold Tri.ofN
  rw [if_neg hn]
  exact ite_eq_t_iff (by split <;> nofun)

theorem ofBool_any_eq_t {α} (l : List α) (g : α → Tri) :
    Tri.ofBool (l.any fun a => g a == .t) = .t ↔ ∃ a ∈ l, g a = .t := by
  unfold Tri.ofBool
  rw [ite_eq_t_iff (y := .f) nofun]
  simp only [List.any_eq_true, beq_iff_eq]

theorem not_not_of_ne_m (x : Tri) (h : x ≠ .m) : x.not.not = x := by
  cases x with
  | m => exact absurd rfl h
  | _ => rfl

end Tri

theorem or_map_const_m {α} (xs : List α) : Tri.or (xs.map (fun _ => Tri.m)) = .m := by
  induction xs with
  | nil => rfl
  | cons x xs ih => rw [List.map_cons, Tri.or_cons]; exact ih

theorem or_map_bool {α} (xs : List α) (g : α → Bool) (hne : xs ≠ []) :
    Tri.or (xs.map (fun x => Tri.ofBool (g x))) = Tri.ofBool (xs.any g) := by
  induction xs with
  | nil => exact absurd rfl hne
  | cons x xs ih =>
    rw [List.map_cons, Tri.or_cons, List.any_cons]
    cases xs with
    | nil => cases g x <;> rfl
    | cons y ys =>
      rw [ih (List.cons_ne_nil y ys)]
      cases g x <;> cases (y :: ys).any g <;> rfl

/-- "True exactly when": all that the verdict of a rule (`Tri.isT`) sees of a result. -/
abbrev TEq (a b : Tri) : Prop := a = .t ↔ b = .t

theorem TEq.refl (a : Tri) : TEq a a := Iff.rfl
theorem TEq.symm {a b : Tri} (h : TEq a b) : TEq b a := Iff.symm h
theorem TEq.trans {a b c : Tri} (h : TEq a b) (h' : TEq b c) : TEq a c := Iff.trans h h'

theorem Tri.isT_iff (a : Tri) : a.isT = true ↔ a = .t := by cases a <;> simp [Tri.isT]

theorem isT_eq_iff (a b : Tri) : a.isT = b.isT ↔ TEq a b :=
  Bool.eq_iff_iff.trans (iff_congr (Tri.isT_iff a) (Tri.isT_iff b))

def Dist (φ : Tri → Prop) : Prop := ∀ xs : List Tri, φ (Tri.or xs) ↔ ∃ x ∈ xs, φ x

theorem Dist.map {φ : Tri → Prop} (hφ : Dist φ) {α} (l : List α) (g : α → Tri) :
    φ (Tri.or (l.map g)) ↔ ∃ a ∈ l, φ (g a) := by
  rw [hφ]
  constructor
  · rintro ⟨x, hx, h⟩
    obtain ⟨a, ha, rfl⟩ := List.mem_map.mp hx
    exact ⟨a, ha, h⟩
  · rintro ⟨a, ha, h⟩
    exact ⟨g a, List.mem_map.mpr ⟨a, ha, rfl⟩, h⟩

theorem dist_t : Dist (· = .t) := by
  intro xs
  show Tri.or xs = .t ↔ ∃ x ∈ xs, x = .t
  rw [Tri.or_eq_t_iff]
  constructor
  · intro h; exact ⟨_, h, rfl⟩
  · rintro ⟨x, hx, rfl⟩; exact hx

theorem dist_nm : Dist (· ≠ .m) := by
  intro xs
  show Tri.or xs ≠ .m ↔ ∃ x ∈ xs, x ≠ .m
  induction xs with
  | nil => simp
  | cons x xs ih =>
    simp only [Tri.or_cons, List.mem_cons, exists_eq_or_imp]
    cases x with
    | t => exact ⟨.inl, fun _ => nofun⟩
    | f => exact ⟨fun _ => .inl nofun, fun _ => by cases Tri.or xs <;> nofun⟩
    | m => exact ih.trans (or_iff_right fun h => h rfl).symm

theorem tri_eq_of (a b : Tri) (h1 : a = .t ↔ b = .t) (h2 : a ≠ .m ↔ b ≠ .m) : a = b := by
  cases a <;> cases b <;> simp_all

/-! `pl` is the list companion (`…L`) of a mutual predicate `p`: `List.all` / `List.any` of `p`, of
which its two defining equations (both `rfl`) are all that is needed. -/

theorem allL_iff {α} {p : α → Bool} {pl : List α → Bool} (nil : pl [] = true)
    (cons : ∀ x xs, pl (x :: xs) = (p x && pl xs)) (l : List α) :
    pl l = true ↔ ∀ x ∈ l, p x = true := by
  induction l with
  | nil => exact iff_of_true nil (List.forall_mem_nil _)
  | cons x xs ih => rw [cons, Bool.and_eq_true, ih, List.forall_mem_cons]

theorem anyL_iff {α} {p : α → Bool} {pl : List α → Bool} (nil : pl [] = false)
    (cons : ∀ x xs, pl (x :: xs) = (p x || pl xs)) (l : List α) :
    pl l = true ↔ ∃ x ∈ l, p x = true := by
  induction l with
  | nil => simp [nil]
  | cons x xs ih => simp only [cons, Bool.or_eq_true, ih, List.mem_cons, exists_eq_or_imp]

theorem anyL_eq_false {α} {p : α → Bool} {pl : List α → Bool} (nil : pl [] = false)
    (cons : ∀ x xs, pl (x :: xs) = (p x || pl xs)) (l : List α) :
    pl l = false ↔ ∀ x ∈ l, p x = false := by
  induction l with
  | nil => exact iff_of_true nil (List.forall_mem_nil _)
  | cons x xs ih => rw [cons, Bool.or_eq_false_iff, ih, List.forall_mem_cons]

theorem anyL_append {α} {p : α → Bool} {pl : List α → Bool} (nil : pl [] = false)
    (cons : ∀ x xs, pl (x :: xs) = (p x || pl xs)) (a b : List α) :
    pl (a ++ b) = (pl a || pl b) := by
  induction a with
  | nil => simp [nil]
  | cons x xs ih => simp [cons, ih, Bool.or_assoc]

theorem any_any_comm {α β} (a : List α) (qs : List β) (F : β → α → Bool) :
    a.any (fun v => qs.any (fun q => F q v)) = qs.any (fun q => a.any (fun v => F q v)) := by
  rw [Bool.eq_iff_iff]
  simp only [List.any_eq_true]
  constructor
  · rintro ⟨v, hv, q, hq, h⟩; exact ⟨q, hq, v, hv, h⟩
  · rintro ⟨q, hq, v, hv, h⟩; exact ⟨v, hv, q, hq, h⟩

theorem map_len {α β} {f : α → β} {a b : List α} (h : a.map f = b.map f) : a.length = b.length := by
  have := congrArg List.length h
  simpa using this

theorem foldl_inv {α β} {P : β → Prop} {Q : α → Prop} {f : β → α → β}
    (step : ∀ b a, Q a → P b → P (f b a)) (l : List α) (hl : ∀ a ∈ l, Q a) :
    ∀ b, P b → P (l.foldl f b) :=
  fun _ h => List.foldlRecOn l f h fun b hb a ha => step b a (hl a ha) hb

theorem mapM_ok_map {α β ε : Type} {f : α → Except ε β} :
    ∀ {l : List α} {ys : List β}, l.mapM f = .ok ys → l.map f = ys.map .ok
  | [], ys, h => by cases h; rfl
  | a :: l, ys, h => by
    rw [List.mapM_cons] at h
    cases ha : f a with
    | error e => rw [ha] at h; cases h
    | ok y =>
      cases hl : l.mapM f with
      | error e => rw [ha, hl] at h; cases h
      | ok ys' =>
        rw [ha, hl] at h; cases h
        rw [List.map_cons, List.map_cons, mapM_ok_map hl, ha]

theorem filterMap_toOption_of_map {α β ε : Type} {f : α → Except ε β} {l : List α} {ys : List β}
    (h : l.map f = ys.map .ok) : ys = l.filterMap (fun a => (f a).toOption) := by
  have := congrArg (List.filterMap Except.toOption) h
  simpa [List.filterMap_map, Function.comp_def, Except.toOption] using this.symm

theorem filterMap_factor {α β γ} (L : List α) (u : α → Option γ) (g : α → Option β) (h : β → γ)
    (H : ∀ x ∈ L, ∃ b, g x = some b ∧ u x = some (h b)) : L.filterMap u = (L.filterMap g).map h := by
  induction L with
  | nil => rfl
  | cons x xs ih =>
    obtain ⟨b, h1, h2⟩ := H x (by simp)
    rw [List.filterMap_cons, h2, List.filterMap_cons, h1, List.map_cons,
      ih (fun y hy => H y (by simp [hy]))]

theorem perm_interchange {α} (a1 b1 a2 b2 : List α) :
    ((a1 ++ b1) ++ (a2 ++ b2)).Perm ((a1 ++ a2) ++ (b1 ++ b2)) := by
  rw [List.append_assoc a1 b1, List.append_assoc a1 a2, ← List.append_assoc b1, ← List.append_assoc a2]
  exact (List.perm_append_comm.append_right b2).append_left a1

end Tau

namespace List
/-- `Tau.TEq` member by member (its lemmas: Proofs/Solver.lean). -/
inductive Forall₂' : List Tau.Tri → List Tau.Tri → Prop where
  | nil : Forall₂' [] []
  | cons {x y xs ys} : ((x = Tau.Tri.t) ↔ (y = Tau.Tri.t)) → Forall₂' xs ys → Forall₂' (x :: xs) (y :: ys)
end List
