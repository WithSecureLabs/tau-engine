import Tau.Optimiser
/-
  The matrix pass seen through `memberField`: `matrixClassify` goes by it, the rows it builds have
  one form (`rowOf`), and the synthetic key of a column leads back to it below 0xD800 columns.
-/
namespace Tau

theorem cmpField_some {l r : Expr} {op : BoolSym} {f : Str} (h : cmpField (.bin l op r) = some f) :
    isLiteral r = true ∧ (l = .field f ∨ ∃ kind, l = .cast f kind) := by
  unfold cmpField at h
  split at h
  · rename_i heq; cases heq; split at h <;> cases h; exact ⟨‹_›, .inr ⟨_, rfl⟩⟩
  · rename_i heq; cases heq; split at h <;> cases h; exact ⟨‹_›, .inl rfl⟩
  · cases h

theorem memberField_some {m : Expr} {f : Str} (h : memberField m = some f) :
    (∃ s c, m = .search s f c) ∨ (∃ x, m = .nested f x) ∨
      ∃ l op r, m = .bin l op r ∧ isLiteral r = true ∧ (l = .field f ∨ ∃ kind, l = .cast f kind) := by
  unfold memberField at h
  split at h
  · cases h; exact .inr (.inl ⟨_, rfl⟩)
  · cases h; exact .inl ⟨_, _, rfl⟩
  · cases m with
    | bin l op r => exact .inr (.inr ⟨l, op, r, rfl, cmpField_some h⟩)
    | _ => simp [cmpField] at h

theorem matrixClassify_eq (cols : List Str) (x : Expr) :
    matrixClassify cols x =
      match memberField x with
      | some f => .inl (singleRow cols f x)
      | none =>
        match x with
        | .group .and ms => (match rowOfMembers cols ms with | some row => .inl row | none => .inr x)
        | _ => .inr x := by
  -- arm by arm: `memberField` is `some` exactly on the arms that make a row of their own
  unfold matrixClassify
  split <;> simp only [memberField, cmpField] <;> split <;> simp_all

/-- The row whose cell at a column is the member `pick` gives for the column's name, re-keyed to the
    column. `singleRow` and a successful `rowOfMembers` are both of this form. -/
def rowOf (cols : List Str) (pick : Str → Option Expr) : List (Option Expr) :=
  (List.range cols.length).map (fun i => (pick (cols.getD i [])).bind (rekey (colKey i)))

theorem singleRow_eq (cols : List Str) (f : Str) (x : Expr) :
    singleRow cols f x = rowOf cols (fun c => if c == f then some x else none) := by
  unfold singleRow rowOf
  apply List.map_congr_left
  intro i _
  by_cases hc : (cols.getD i [] == f) = true <;> simp only [hc] <;> rfl

/-- Every member has a column, no two share one, and each column takes the member on it. -/
theorem rowOfMembers_some {cols : List Str} {es : List Expr} {row : List (Option Expr)}
    (h : rowOfMembers cols es = some row) :
    (∀ m ∈ es, (memberField m).isSome = true) ∧
    ((es.map memberField).filterMap id).length = ((es.map memberField).filterMap id).eraseDups.length ∧
    row = rowOf cols (fun c => es.find? (fun x => memberField x == some c)) := by
  simp only [rowOfMembers, Option.ite_none_left_eq_some, Option.some.injEq] at h
  obtain ⟨hnone, hlen, rfl⟩ := h
  refine ⟨fun m hm => ?_, by simpa only [bne_iff_ne, ne_eq, Decidable.not_not] using hlen, ?_⟩
  · cases hmf : memberField m with
    | some _ => rfl
    | none => exact absurd (List.any_eq_true.mpr ⟨none, List.mem_map.mpr ⟨m, hm, hmf⟩, rfl⟩) hnone
  · unfold rowOf
    apply List.map_congr_left
    intro i _
    show _ = (es.find? (fun x => memberField x == some (cols.getD i []))).bind (rekey (colKey i))
    cases es.find? (fun x => memberField x == some (cols.getD i [])) <;> rfl

theorem matrixClassify_inl {cols : List Str} {x : Expr} {row : List (Option Expr)}
    (h : matrixClassify cols x = .inl row) :
    (∃ f, memberField x = some f ∧
        row = rowOf cols (fun c => if c == f then some x else none)) ∨
    (∃ ms, x = .group .and ms ∧ rowOfMembers cols ms = some row) := by
  rw [matrixClassify_eq] at h
  split at h
  · rename_i f hf
    exact .inl ⟨f, hf, by rw [← singleRow_eq]; exact (Sum.inl.inj h).symm⟩
  · split at h
    · rename_i ms _
      split at h
      · rename_i hr
        exact .inr ⟨ms, rfl, by rw [← Sum.inl.inj h]; exact hr⟩
      · cases h
    · cases h

theorem classify_inr (cols : List Str) (y z : Expr) (h : matrixClassify cols y = .inr z) : z = y := by
  rw [matrixClassify_eq] at h
  split at h
  · cases h
  · split at h
    · split at h <;> cases h <;> rfl
    · cases h; rfl

/-- The two projections `matrix` filters the classified members by: the rows, the rest. -/
def inlOf (c : Sum (List (Option Expr)) Expr) : Option (List (Option Expr)) :=
  match c with | .inl r => some r | _ => none
def inrOf (c : Sum (List (Option Expr)) Expr) : Option Expr :=
  match c with | .inr r => some r | _ => none

theorem inlOf_eq_some {c : Sum (List (Option Expr)) Expr} {r : List (Option Expr)} :
    inlOf c = some r ↔ c = .inl r := by cases c <;> simp [inlOf]
theorem inrOf_eq_some {c : Sum (List (Option Expr)) Expr} {z : Expr} :
    inrOf c = some z ↔ c = .inr z := by cases c <;> simp [inrOf]

theorem mem_rows {cols : List Str} {L : List Expr} {r : List (Option Expr)} :
    r ∈ (L.map (matrixClassify cols)).filterMap inlOf ↔ ∃ y ∈ L, matrixClassify cols y = .inl r := by
  simp only [List.mem_filterMap, List.mem_map, inlOf_eq_some]
  exact ⟨fun ⟨_, ⟨y, hy, e⟩, h⟩ => ⟨y, hy, e ▸ h⟩, fun ⟨y, hy, h⟩ => ⟨_, ⟨y, hy, rfl⟩, h⟩⟩

theorem mem_rest {cols : List Str} {L : List Expr} {z : Expr} :
    z ∈ (L.map (matrixClassify cols)).filterMap inrOf ↔ z ∈ L ∧ matrixClassify cols z = .inr z := by
  simp only [List.mem_filterMap, List.mem_map, inrOf_eq_some]
  constructor
  · rintro ⟨_, ⟨y, hy, rfl⟩, h⟩
    cases classify_inr cols y z h
    exact ⟨hy, h⟩
  · exact fun ⟨hz, h⟩ => ⟨_, ⟨z, hz, rfl⟩, h⟩

/-- What the or-arm of `matrix` puts in place of the group once it has decided to build a matrix. -/
def matrixOut (scratch : List Expr) : Expr :=
  let fields := scratch.foldl countFields []
  let cols := (stableSort (fun (a b : Str × Nat) => a.2 ≤ b.2) fields).map (·.1)
  let cl := scratch.map (matrixClassify cols)
  let rows := cl.filterMap inlOf
  let rest := cl.filterMap inrOf
  let out := (if rows.isEmpty then [] else [Expr.matrix cols rows]) ++ rest
  unwrapGroup .or out

theorem matrix_or (fuel : Nat) (es : List Expr) :
    matrix (fuel + 1) (.group .or es) =
      (if ((es.map (matrix fuel)).foldl countFields []).any (fun (_, n) => n > 1 && n < 256) &&
          decide (((es.map (matrix fuel)).foldl countFields []).length < 55296)
       then matrixOut (es.map (matrix fuel)) else .group .or (es.map (matrix fuel))) := by
  rfl

/-- Below all()/of() the pass only shakes the argument once more, with fuel `shakeFuel x`: what
    `shake1` does at the node itself with one more. -/
theorem matrix_match (fuel : Nat) (k : MatchK) (x : Expr) :
    matrix (fuel + 1) (.match k x) = shake1 (shakeFuel x + 1) (.match k x) := by
  cases x <;> rfl

/-- Induction over what `matrix` does, as a relation between a tree and its image, an arm for each
    thing the pass does: it leaves the tree alone (no fuel, a leaf, a group that is neither and nor or),
    maps over the members of a group, puts `matrixOut` in place of the mapped or-group, maps over the
    operands of `bin` / `negate` / `nested`, and under all()/of() is `shake1`. -/
theorem matrix_induct {P : Expr → Expr → Prop} (leaf : ∀ e, P e e)
    (members : ∀ n op es, op = .and ∨ op = .or → (∀ y ∈ es, P y (matrix n y)) →
      P (.group op es) (.group op (es.map (matrix n))))
    (out : ∀ es L, (L.foldl countFields []).length < 55296 → P (.group .or es) (.group .or L) →
      P (.group .or es) (matrixOut L))
    (bin : ∀ n l op r, P l (matrix n l) → P r (matrix n r) → P (.bin l op r) (.bin (matrix n l) op (matrix n r)))
    (shake : ∀ k x, P (.match k x) (shake1 (shakeFuel x + 1) (.match k x)))
    (negate : ∀ n x, P x (matrix n x) → P (.negate x) (.negate (matrix n x)))
    (nested : ∀ n f x, P x (matrix n x) → P (.nested f x) (.nested f (matrix n x))) :
    ∀ fuel e, P e (matrix fuel e) := by
  intro fuel
  induction fuel with
  | zero => exact leaf
  | succ n ih =>
    intro e
    cases e with
    | group op es =>
      cases op with
      | and => exact members n .and es (.inl rfl) fun y _ => ih y
      | or =>
        rw [matrix_or]
        split
        · rename_i hguard
          exact out es _ (of_decide_eq_true (Bool.and_eq_true_iff.mp hguard).2)
            (members n .or es (.inr rfl) fun y _ => ih y)
        · exact members n .or es (.inr rfl) fun y _ => ih y
      | _ => exact leaf _
    | bin l op r => exact bin n l op r (ih l) (ih r)
    | «match» k x => rw [matrix_match]; exact shake k x
    | negate x => exact negate n x (ih x)
    | nested f x => exact nested n f x (ih x)
    | _ => exact leaf _

/-- 55296 = 0xD800, the first surrogate: `Char.ofNat i` is the character numbered `i` only below it,
    so only there does the synthetic key of column `i` lead `Cache::find` back to slot `i`.  `matrix`
    builds no wider node, `safe` admits none. -/
theorem colKey_toNat (i : Nat) (h : i < 55296) : (colKey i) = [Char.ofNat i] ∧ (Char.ofNat i).toNat = i := by
  refine ⟨rfl, ?_⟩
  have hv : Nat.isValidChar i := Or.inl h
  simp [Char.ofNat, hv, Char.ofNatAux, Char.toNat]

theorem cache_find (cache : List (Option Value)) (i : Nat) (h55 : i < 55296) :
    (Doc.cache cache).find (colKey i) = (cache[i]?).join := by
  obtain ⟨h1, h2⟩ := colKey_toNat i h55
  rw [h1]; simp only [Doc.find, h2]

theorem findPanics_cache_colKey (cache : List (Option Value)) (i : Nat) (hi : i < cache.length) (h55 : i < 55296) :
    (Doc.cache cache).findPanics (colKey i) = false := by
  have := (colKey_toNat i h55).2
  simp [Doc.findPanics, colKey, this]
  omega

end Tau
