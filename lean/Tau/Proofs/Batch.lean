import Tau.Proofs.Merge
import Tau.Proofs.MappingBuilt
/-
  Batching is invisible. A batched automaton / regex set is the three-valued `or` of its members
  (Tau.Proofs.Merge), so the group the sequence branch builds stands for the buckets written out;
  one iteration of the member loop adds one member's contribution, so the buckets are the members
  taken one at a time; together: a list under a plain key is the `or` of its members (`seq_value`).
-/
namespace Tau

/-- One string member on its own: what `parse_mapping` builds for `f: <that string>`. -/
def unbatchOne (f : Str) (cast : Bool) (i : Ident) : Option Expr :=
  (searchOfPattern i.ci i.pat).map (fun s => Expr.search s f cast)

/-- The members of a list evaluated one by one, bucket after bucket as `SeqSt` lists them;
    `batchMembers` takes them in another order (`batchOrder`). -/
def unbatched (st : SeqSt) (f : Str) : List Expr :=
  (st.startsWith ++ st.contains ++ st.endsWith ++ st.exact ++ st.regex).filterMap (unbatchOne f st.cast)
    ++ st.rest

section
variable (E : RegexEngine) (K : IdentK) (d : Doc)

/-- The `or` of the results of a list of members: the value of `.group .or es`. -/
def V (es : List Expr) : Tri := Tri.or (es.map (solveG E K d))

theorem V_append (a b : List Expr) : V E K d (a ++ b) = binOr (V E K d a) (V E K d b) := by
  unfold V; rw [List.map_append, or_append']

theorem V_single (x : Expr) : V E K d [x] = solveG E K d x := by
  unfold V; simp only [List.map_cons, List.map_nil, or_single]

theorem V_single_search (s : Search) (f : Str) (c : Bool) :
    V E K d [.search s f c] = solveSearch E d s f c := by
  rw [V_single, solve_search]

theorem V_map_search {α} (xs : List α) (g : α → Search) (f : Str) (c : Bool) :
    V E K d (xs.map (fun x => Expr.search (g x) f c)) = Tri.or (xs.map (fun x => solveSearch E d (g x) f c)) := by
  unfold V; rw [List.map_map]; congr 1

theorem searchOfPattern_lit_false (p : Pattern) (mt : MatchType) (h : matchTypeOf p = some mt) :
    searchOfPattern false p = some (searchOfMatchType mt) := by
  cases p with
  | exact s => cases h; cases s <;> rfl
  | contains _ | endsWith _ | startsWith _ => cases h; rfl
  | _ => cases h

theorem searchOfPattern_lit_true (p : Pattern) (mt : MatchType) (h : matchTypeOf p = some mt)
    (hne : ∀ s, p = .exact s → s ≠ []) :
    searchOfPattern true p = some (.ac [mt] true) := by
  cases p with
  | exact s => cases h; obtain ⟨c, cs, rfl⟩ := List.exists_cons_of_ne_nil (hne s rfl); rfl
  | contains _ | endsWith _ | startsWith _ => cases h; rfl
  | _ => cases h

theorem lit_unbatched (L : List Ident) (f : Str) (c : Bool)
    (hci : ∀ i ∈ L, i.ci = false) (hk : ∀ i ∈ L, ∃ mt, matchTypeOf i.pat = some mt) :
    L.filterMap (unbatchOne f c) =
      (L.filterMap (fun i => matchTypeOf i.pat)).map (fun mt => Expr.search (searchOfMatchType mt) f c) :=
  filterMap_factor L _ _ _ fun i hi => by
    obtain ⟨mt, h⟩ := hk i hi
    exact ⟨mt, h, by rw [unbatchOne, hci i hi, searchOfPattern_lit_false _ _ h]; rfl⟩

theorem ilit_unbatched (L : List Ident) (f : Str) (c : Bool) (hci : ∀ i ∈ L, i.ci = true)
    (hk : ∀ i ∈ L, ∃ mt, matchTypeOf i.pat = some mt ∧ ∀ s, i.pat = .exact s → s ≠ []) :
    L.filterMap (unbatchOne f c) =
      (L.filterMap (fun i => matchTypeOf i.pat)).map (fun mt => Expr.search (.ac [mt] true) f c) :=
  filterMap_factor L _ _ _ fun i hi => by
    obtain ⟨mt, h, hne⟩ := hk i hi
    exact ⟨mt, h, by rw [unbatchOne, hci i hi, searchOfPattern_lit_true _ _ h hne]; rfl⟩

theorem rx_unbatched (L : List Ident) (ci : Bool) (f : Str) (c : Bool)
    (hci : ∀ i ∈ L, i.ci = ci) (hk : ∀ i ∈ L, ∃ p, i.pat = .regex p) :
    L.filterMap (unbatchOne f c) = (L.filterMap regexText).map (fun p => Expr.search (.regex p ci) f c) :=
  filterMap_factor L _ _ _ fun i hi => by
    obtain ⟨p, h⟩ := hk i hi
    refine ⟨p, ?_, ?_⟩
    · obtain ⟨ci', pat⟩ := i; simp only at h; subst h; rfl
    · rw [unbatchOne, hci i hi, h]; rfl

theorem emptyExact_V (L : List Ident) (f : Str) (c : Bool)
    (hk : ∀ i ∈ L, i.pat = .exact []) :
    L.map (fun _ => Expr.search (.exact []) f c) = L.filterMap (unbatchOne f c) := by
  rw [filterMap_factor L (unbatchOne f c) some (fun _ => Expr.search (.exact []) f c)
    fun i hi => ⟨i, rfl, by rw [unbatchOne, hk i hi]; rfl⟩, List.filterMap_some]

theorem V_perm {a b : List Expr} (h : a.Perm b) : V E K d a = V E K d b := by
  unfold V; exact Tri.or_perm (h.map _)

end

/-- A block of the batched group stands for the members it was built from: it has their value on
    every document, and it is those members whenever it reports that it batched nothing. -/
def Stands (b : List Expr × Bool) (members : List Expr) : Prop :=
  (b.2 = false → b.1 = members) ∧ ∀ E K d, V E K d b.1 = V E K d members

theorem Stands.append {b b' : List Expr × Bool} {ms ms' : List Expr} (h : Stands b ms)
    (h' : Stands b' ms') : Stands (b.1 ++ b'.1, b.2 || b'.2) (ms ++ ms') :=
  ⟨fun hf => by
      rw [Bool.or_eq_false_iff] at hf
      rw [h.1 hf.1, h'.1 hf.2],
    fun E K d => by rw [V_append, V_append, h.2, h'.2]⟩

theorem Stands.refl (l : List Expr) : Stands (l, false) l := ⟨fun _ => rfl, fun _ _ _ => rfl⟩

theorem Stands.left {b : List Expr × Bool} {ms : List Expr} (l : List Expr) (h : Stands b ms) :
    Stands (l ++ b.1, b.2) (l ++ ms) :=
  (Stands.refl l).append h

theorem Stands.right {b : List Expr × Bool} {ms : List Expr} (h : Stands b ms) (l : List Expr) :
    Stands (b.1 ++ l, b.2) (ms ++ l) := by
  simpa using h.append (Stands.refl l)

theorem litBlock_stands (ctx : List MatchType) (f : Str) (c : Bool) :
    Stands (litBlock ctx f c) (ctx.map (fun mt => Expr.search (searchOfMatchType mt) f c)) := by
  match ctx with
  | [] => exact Stands.refl _
  | [m] => exact Stands.refl _
  | m :: m' :: rest =>
    refine ⟨fun h => by simp [litBlock] at h, fun E K d => ?_⟩
    simp only [litBlock]
    rw [V_single_search, ac_or E d _ (by simp) f c, V_map_search]

theorem ilitBlock_stands (ctx : List MatchType) (f : Str) (c : Bool) :
    Stands (ilitBlock ctx f c) (ctx.map (fun mt => Expr.search (.ac [mt] true) f c)) := by
  match ctx with
  | [] => exact Stands.refl _
  | m :: rest =>
    refine ⟨fun h => by simp [ilitBlock] at h, fun E K d => ?_⟩
    simp only [ilitBlock, List.isEmpty_cons, Bool.false_eq_true, if_false]
    rw [V_single_search, iac_or E d _ (by simp) f c, V_map_search]

theorem rxBlock_stands (rs : List Str) (ci : Bool) (f : Str) (c : Bool) :
    Stands (rxBlock rs ci f c) (rs.map (fun p => Expr.search (.regex p ci) f c)) := by
  match rs with
  | [] => exact Stands.refl _
  | [r] => exact Stands.refl _
  | r :: r' :: rest =>
    refine ⟨fun h => by simp [rxBlock] at h, fun E K d => ?_⟩
    simp only [rxBlock]
    rw [V_single_search, set_or E d _ ci (by simp) f c, V_map_search]

theorem mt_of_kind (i : Ident) (h : (∃ s, i.pat = .startsWith s) ∨ (∃ s, i.pat = .contains s) ∨
    (∃ s, i.pat = .endsWith s) ∨ (∃ s, i.pat = .exact s)) : ∃ mt, matchTypeOf i.pat = some mt := by
  rcases h with ⟨s, h⟩ | ⟨s, h⟩ | ⟨s, h⟩ | ⟨s, h⟩ <;> rw [h] <;> exact ⟨_, rfl⟩

theorem SeqSt.WF.literals {st : SeqSt} (hwf : st.WF) :
    ∀ i ∈ st.startsWith ++ st.contains ++ st.endsWith ++ st.exact.filter isNonEmptyExact,
      ∃ mt, matchTypeOf i.pat = some mt ∧ ∀ s, i.pat = .exact s → s ≠ [] := by
  intro i hi
  have other : ∀ {p : Pattern} {mt : MatchType}, i.pat = p → matchTypeOf p = some mt →
      (∀ s, p ≠ .exact s) → ∃ mt, matchTypeOf i.pat = some mt ∧ ∀ s, i.pat = .exact s → s ≠ [] :=
    fun h hm hne => ⟨_, h ▸ hm, fun s h' => absurd (h ▸ h') (hne s)⟩
  simp only [List.mem_append, List.mem_filter] at hi
  rcases hi with ((hi | hi) | hi) | ⟨hi, hne⟩
  · obtain ⟨s, h⟩ := hwf.startsWith i hi; exact other h rfl nofun
  · obtain ⟨s, h⟩ := hwf.contains i hi; exact other h rfl nofun
  · obtain ⟨s, h⟩ := hwf.endsWith i hi; exact other h rfl nofun
  · obtain ⟨s, h⟩ := hwf.exact i hi
    refine ⟨_, by rw [h]; rfl, fun s' h' hs => ?_⟩
    subst hs; simp [isNonEmptyExact, h'] at hne

/-- The members in the order in which `batchMembers` takes the buckets. -/
def batchOrder (st : SeqSt) (f : Str) : List Expr :=
  let ex0 := st.exact.filter isEmptyExact
  let all := st.startsWith ++ st.contains ++ st.endsWith ++ st.exact.filter isNonEmptyExact
  (ex0 ++ all.filter (fun i => !i.ci) ++ all.filter (fun i => i.ci)
    ++ st.regex.filter (fun i => !i.ci) ++ st.regex.filter (fun i => i.ci)).filterMap (unbatchOne f st.cast)
  ++ st.rest

theorem buckets_perm (st : SeqSt) (hwf : st.WF) (f : Str) : (batchOrder st f).Perm (unbatched st f) := by
  -- a list cut in two by a test and put behind `a` is the list behind `a`
  have cut : ∀ (p : Ident → Bool) (a l : List Ident),
      (a ++ l.filter (fun i => !p i) ++ l.filter p).Perm (a ++ l) := fun p a l => by
    rw [List.append_assoc]
    exact (List.perm_append_comm.trans (List.filter_append_perm p l)).append_left a
  have hex : st.exact.filter isNonEmptyExact = st.exact.filter (fun i => !isEmptyExact i) :=
    List.filter_congr fun i hi => by
      obtain ⟨s, h⟩ := hwf.exact i hi
      simp [isNonEmptyExact, isEmptyExact, h]
  refine (List.Perm.filterMap _ ?_).append_right _
  -- the regexes were cut by case flag, before them the literals, and the exact ones by emptiness
  refine (cut (·.ci) _ st.regex).trans (((cut (·.ci) _ _).trans ?_).append_right _)
  rw [hex]
  exact (List.perm_append_comm_assoc ..).trans ((List.filter_append_perm isEmptyExact st.exact).append_left _)

theorem emptyExact_unbatched (st : SeqSt) (hwf : st.WF) (f : Str) :
    (st.exact.filter isEmptyExact).map (fun _ => Expr.search (.exact []) f st.cast) =
      (st.exact.filter isEmptyExact).filterMap (unbatchOne f st.cast) := by
  apply emptyExact_V
  intro i hi
  simp only [List.mem_filter] at hi
  obtain ⟨s, h⟩ := hwf.exact i hi.1
  have := hi.2
  simp only [isEmptyExact, h] at this
  rw [h]; congr; exact List.isEmpty_iff.mp this

/-- `*_unbatched` turn each bucket into what its block lemma speaks of. -/
theorem batchMembers_stands (st : SeqSt) (hwf : st.WF) (f : Str) :
    Stands (batchMembers st f) (batchOrder st f) := by
  have hall := hwf.literals
  unfold batchOrder
  have hci : ∀ {L : List Ident} {p : Ident → Bool}, ∀ i ∈ L.filter p, p i = true :=
    fun i hi => (List.mem_filter.mp hi).2
  simp only [List.filterMap_append]
  rw [← emptyExact_unbatched st hwf f,
    lit_unbatched _ f st.cast (fun i hi => by simpa using hci i hi)
      (fun i hi => (hall i (List.mem_filter.mp hi).1).imp fun _ h => h.1),
    ilit_unbatched _ f st.cast hci (fun i hi => hall i (List.mem_filter.mp hi).1),
    rx_unbatched _ false f st.cast (fun i hi => by simpa using hci i hi)
      (fun i hi => hwf.regex i (List.mem_filter.mp hi).1),
    rx_unbatched _ true f st.cast hci (fun i hi => hwf.regex i (List.mem_filter.mp hi).1)]
  exact (((((litBlock_stands _ f st.cast).left _).append (ilitBlock_stands _ f st.cast)).append
    (rxBlock_stands _ false f st.cast)).append (rxBlock_stands _ true f st.cast)).right _

section
variable (E : RegexEngine) (K : IdentK) (d : Doc)

theorem batch_or (st : SeqSt) (hwf : st.WF) (f : Str) :
    V E K d (batchMembers st f).1 = V E K d (unbatched st f) := by
  exact ((batchMembers_stands st hwf f).2 E K d).trans (V_perm E K d (buckets_perm st hwf f))

end

theorem unbatched_add (a b : SeqSt) (f : Str) (hc : b.cast = a.cast) :
    (unbatched (a.add b) f).Perm (unbatched a f ++ unbatched b f) := by
  unfold unbatched
  have hcast : (a.add b).cast = a.cast := rfl
  rw [hcast, hc]
  simp only [SeqSt.add]
  refine List.Perm.trans ?_ (perm_interchange _ _ _ _).symm
  apply List.Perm.append_right
  rw [← List.filterMap_append]
  apply List.Perm.filterMap
  -- one interchange per bucket boundary, outermost first
  refine ((((perm_interchange _ _ _ _).append_right _).trans (perm_interchange _ _ _ _)).append_right _
    |>.trans (perm_interchange _ _ _ _)).append_right _ |>.trans (perm_interchange _ _ _ _)

/-- What a member contributes when it is the only member of the list (nothing if it is rejected). -/
def memberAlone (E : RegexEngine) (ic : Bool) (f : Str) (misc : Option ModSym) (lhs : Expr) (v : Yaml) :
    List Expr :=
  match memberDelta E ic f misc lhs (misc == some .str) v with
  | .ok δ => unbatched δ f
  | .error _ => []

theorem members_flat_perm (E : RegexEngine) (ic : Bool) (f : Str) (misc : Option ModSym) (lhs : Expr) :
    ∀ (vs : List Yaml) (st st' : SeqSt), st.cast = (misc == some .str) →
      parseMembers E ic f misc lhs vs st = .ok st' →
      (unbatched st' f).Perm (unbatched st f ++ vs.flatMap (memberAlone E ic f misc lhs))
  | [], st, st', _, h => by
    cases h
    exact .of_eq (List.append_nil _).symm
  | v :: vs, st, st', hc, h => by
    obtain ⟨δ, hδ, h⟩ := parseMembers_step_ok hc h
    have hmem : memberAlone E ic f misc lhs v = unbatched δ f := by simp only [memberAlone, hδ]
    have p := unbatched_add st δ f ((memberDelta_ok hδ).1.trans hc.symm)
    rw [List.flatMap_cons, hmem, ← List.append_assoc]
    exact (members_flat_perm E ic f misc lhs vs (st.add δ) st' hc h).trans (p.append_right _)

section
variable (E : RegexEngine) (K : IdentK) (d : Doc)

theorem V_flatMap {α} (g : α → List Expr) (xs : List α) :
    V E K d (xs.flatMap g) = Tri.or (xs.map (fun x => V E K d (g x))) := by
  induction xs with
  | nil => rfl
  | cons x xs ih => rw [List.flatMap_cons, V_append, List.map_cons, or_cons', ih]

theorem members_or (ic : Bool) (f : Str) (misc : Option ModSym) (lhs : Expr) :
    ∀ (vs : List Yaml) (Δ : SeqSt),
      parseMembers E ic f misc lhs vs { cast := (misc == some .str) } = .ok Δ →
      V E K d (unbatched Δ f) = Tri.or (vs.map (fun v => V E K d (memberAlone E ic f misc lhs v))) :=
  fun vs Δ h => (V_perm E K d ((members_flat_perm E ic f misc lhs vs _ Δ rfl h).trans (.of_eq (List.nil_append _)))).trans
    (V_flatMap E K d _ vs)

theorem shapeGroup_value (e g : Expr) (gs : List Expr) (m : Bool) (he : ∀ k y, e ≠ .match k y) :
    solveG E K d (shapeGroup e g gs m) = V E K d (g :: gs) := by
  rw [shapeGroup_plain he]
  split
  · rename_i h
    have h' : m = false ∧ gs.isEmpty = true := by simpa using h
    obtain rfl : gs = [] := List.isEmpty_iff.mp h'.2
    exact (V_single E K d g).symm
  · exact group_or_value E K d _

/-- `y` is the list before `not(k)` is applied. -/
theorem seq_value {ic : Bool} {e : Expr} {f : Str} {misc : Option ModSym} {s : List Yaml} {x : Expr}
    (he : ∀ k y, e ≠ .match k y) (h : parseVal E ic e f misc (.seq s) = .ok x) :
    ∃ y, x = wrapNot misc y ∧
      solveG E K d y = Tri.or (s.map (fun v => V E K d (memberAlone E ic f misc (unmatchedOf e) v))) := by
  obtain ⟨st, g, gs, hst, hwf, hg, rfl⟩ := parseVal_seq_ok h
  refine ⟨_, rfl, ?_⟩
  rw [shapeGroup_value E K d e g gs _ he, ← hg, batch_or E K d st hwf f,
    members_or E K d ic f misc _ s st hst]
end

end Tau
