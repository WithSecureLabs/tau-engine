import Tau.Proofs.Sim
/-
  Frame lemmas: the solver's result depends on the document only through `find` at the keys the
  expression names at its own level (`keysOf`).
-/
namespace Tau

def operandField : Expr → List Str
  | .field f => [f]
  | .cast f _ => [f]
  | _ => []

mutual
/-- The keys an expression asks of the document it is evaluated against (not of nested objects). -/
def keysOf : Expr → List Str
  | .group _ es => keysOfL es
  | .bin l .and r => keysOf l ++ keysOf r
  | .bin l .or r => keysOf l ++ keysOf r
  | .bin l _ r => operandField l ++ operandField r
  | .match _ e => keysOf e
  | .matrix cols _ => cols
  | .negate e => keysOf e
  | .nested f _ => [f]
  | .search _ f _ => [f]
  | _ => []
def keysOfL : List Expr → List Str
  | [] => []
  | e :: es => keysOf e ++ keysOfL es
end

def Agree (d d' : Doc) (ks : List Str) : Prop := ∀ k ∈ ks, d.find k = d'.find k

theorem Agree.mono {d d' : Doc} {ks ks' : List Str} (h : Agree d d' ks) (hs : ∀ k ∈ ks', k ∈ ks) :
    Agree d d' ks' := fun k hk => h k (hs k hk)

theorem keysOfL_mem (es : List Expr) (e : Expr) (he : e ∈ es) : keysOf e ⊆ keysOfL es := by
  induction es with
  | nil => cases he
  | cons x xs ih =>
    rcases List.mem_cons.mp he with rfl | h
    · exact List.subset_append_left _ _
    · exact List.subset_append_of_subset_right _ (ih h)

theorem keysOf_cmp {l r : Expr} {op : BoolSym} (h : op ≠ .and ∧ op ≠ .or) :
    keysOf (.bin l op r) = operandField l ++ operandField r := by
  cases op with
  | and => exact absurd rfl h.1
  | or => exact absurd rfl h.2
  | _ => rfl

theorem operand_congr (d d' : Doc) (e : Expr) (h : Agree d d' (operandField e)) :
    operand d e = operand d' e := by
  cases e with
  | field f => rw [operand, operand, h f (.head _)]
  | cast f m =>
    cases m with
    | flt | int => rw [operand, operand, h f (.head _)]
    | _ => rfl
  | _ => rfl

theorem solveCmp_congr (d d' : Doc) (l : Expr) (op : BoolSym) (r : Expr)
    (h : Agree d d' (operandField l ++ operandField r)) : solveCmp d l op r = solveCmp d' l op r := by
  have hl : Agree d d' (operandField l) := h.mono (List.subset_append_left _ _)
  have hr : Agree d d' (operandField r) := h.mono (List.subset_append_right _ _)
  unfold solveCmp
  split
  · rename_i lf rf
    rw [hl lf (List.mem_singleton_self lf), hr rf (List.mem_singleton_self rf)]
  · rename_i lf _
    rw [hl lf (List.mem_singleton_self lf)]
  · rename_i lf
    rw [hl lf (List.mem_singleton_self lf)]
  · rw [operand_congr d d' l hl, operand_congr d d' r hr]

theorem andG_congr (E : RegexEngine) (K : IdentK) (d d' : Doc) (es : List Expr)
    (h : ∀ e ∈ es, solveG E K d e = solveG E K d' e) : andG E K d es = andG E K d' es := by
  rw [andG_eq_map, andG_eq_map, List.map_congr_left h]

theorem orG_congr (E : RegexEngine) (K : IdentK) (d d' : Doc) (es : List Expr)
    (h : ∀ e ∈ es, solveG E K d e = solveG E K d' e) : orG E K d es = orG E K d' es := by
  rw [orG_eq_map, orG_eq_map, List.map_congr_left h]

theorem listG_congr (E : RegexEngine) (K : IdentK) (d d' : Doc) (es : List Expr)
    (h : ∀ e ∈ es, solveG E K d e = solveG E K d' e) : listG E K d es = listG E K d' es := by
  rw [listG_eq_map, listG_eq_map, List.map_congr_left h]

theorem nested_congr (E : RegexEngine) (K : IdentK) (d d' : Doc) (f : Str) (e : Expr)
    (h : d.find f = d'.find f) : solveG E K d (.nested f e) = solveG E K d' (.nested f e) :=
  nested_rekey E K d d' f f e h

/-- What the frame theorem preserves: the same expression on two documents that agree on its keys
    and on what the identifier continuation reads (the cells of a matrix: on one and the same cache). -/
abbrev FrameRel (K : IdentK) (d : Doc) (x : Expr) (d' : Doc) (x' : Expr) : Prop :=
  x = x' ∧ Agree d d' (keysOf x) ∧ (∀ i, K.ident i d = K.ident i d') ∧ ∀ k i, K.match k i d = K.match k i d'

/-- **Frame theorem.** Two documents that agree on the keys an expression names at its own level
    give it the same three-valued result. -/
theorem solveG_agree (E : RegexEngine) (K : IdentK) (d d' : Doc)
    (hKi : ∀ i, K.ident i d = K.ident i d') (hKm : ∀ k i, K.match k i d = K.match k i d')
    (e : Expr) (ha : Agree d d' (keysOf e)) : solveG E K d e = solveG E K d' e := by
  refine solveG_sim .id (R := FrameRel K) ?_ ⟨rfl, ha, hKi, hKm⟩
  clear ha hKi hKm e d d'
  intro d e d' e' ⟨h0, ha, hKi, hKm⟩
  subst h0
  have sub : ∀ {x}, (∀ k ∈ keysOf x, k ∈ keysOf e) → FrameRel K d x d' x :=
    fun h => ⟨rfl, ha.mono h, hKi, hKm⟩
  have cols : ∀ cols, Agree d d' cols → ∀ col ∈ cols, d'.find col = (d.find col).map ValMap.id.val :=
    fun _ h col hc => by simp [h col hc]
  have cells : ∀ (x : Expr) (c : List (Option Value)), FrameRel K (.cache c) x (.cache (ValMap.id.cache c)) x :=
    fun _ c => by rw [ValMap.id_cache]; exact ⟨rfl, fun _ _ => rfl, fun _ => rfl, fun _ _ => rfl⟩
  cases e with
  | group op es => exact .group none op id (List.map_id _).symm fun x hx => sub (keysOfL_mem es x hx)
  | bin l op r =>
    by_cases h : op = .and ∨ op = .or
    · rcases h with rfl | rfl
      · exact .bin _ (.inl rfl) (sub (List.subset_append_left _ _)) (sub (List.subset_append_right _ _))
      · exact .bin _ (.inr rfl) (sub (List.subset_append_left _ _)) (sub (List.subset_append_right _ _))
    · have h := not_or.mp h
      exact .done (by
        rw [solveG_bin_cmp E K _ h, solveG_bin_cmp E K _ h]
        exact solveCmp_congr d d' l _ r (keysOf_cmp h ▸ ha))
  | ident i => exact .done (hKi i)
  | «match» k x =>
    cases x with
    | ident i => exact .done (by cases k <;> exact hKm _ i)
    | group op es => exact .group (some k) op id (List.map_id _).symm fun x hx => sub (keysOfL_mem es x hx)
    | search s f c => exact .search (some k) s c (cols _ ha f (List.mem_singleton_self f))
    | matrix cs rs => exact .matrix (some k) (cols cs ha) fun _ _ x _ => cells x
    | _ => exact .matchFt k rfl rfl (sub fun _ h => h)
  | matrix cs rs => exact .matrix none (cols cs ha) fun _ _ x _ => cells x
  | negate x => exact .negate (sub fun _ h => h)
  | nested f x => exact .done (nested_rekey E K d d' f f x (ha f (List.mem_singleton_self f)))
  | search s f c => exact .search none s c (cols _ ha f (List.mem_singleton_self f))
  | _ => exact .done rfl

/-- The size bound is not used: `solveG_agree`. -/
theorem frame (E : RegexEngine) (K : IdentK) (d d' : Doc)
    (hKi : ∀ i, K.ident i d = K.ident i d') (hKm : ∀ k i, K.match k i d = K.match k i d') :
    ∀ (n : Nat) (e : Expr), e.size ≤ n → Agree d d' (keysOf e) → solveG E K d e = solveG E K d' e :=
  fun _ e _ => solveG_agree E K d d' hKi hKm e

end Tau
