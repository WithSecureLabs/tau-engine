import Tau.Proofs.Shake1Safe
/-
  `matrix` keeps a tree inside `safe` (the new matrix node is well-formed: fewer than 0xD800
  columns, rows as wide as the columns, every cell keyed by the synthetic key of its column).
-/
namespace Tau

theorem rekey_cell (defd : Str → Bool) (i : Nat) (x e : Expr) (hs : safe defd x = true)
    (hf : (memberField x).isSome = true) (h : rekey (colKey i) x = some e) :
    cellKeyOk i e = true ∧ safe defd e = true := by
  obtain ⟨f, hf⟩ := Option.isSome_iff_exists.mp hf
  rcases memberField_some hf with ⟨s, c, rfl⟩ | ⟨y, rfl⟩ | ⟨l, op, r, rfl, hlit, hl⟩
  · cases h; exact ⟨beq_self_eq_true _, rfl⟩
  · cases h; exact ⟨beq_self_eq_true _, hs⟩
  · -- `and`/`or` over a field or cast is not safe, because that operand is not
    have hop : op ≠ .and ∧ op ≠ .or := not_or.mp fun ho => by
      rw [safe_bin ho, Bool.and_eq_true] at hs
      rcases hl with rfl | ⟨kind, rfl⟩ <;> exact nomatch hs.1
    have key : (colKey i == colKey i && isLiteral r && op != .and && op != .or) = true := by
      rw [beq_self_eq_true, hlit, bne_iff_ne.mpr hop.1, bne_iff_ne.mpr hop.2]; rfl
    rcases hl with rfl | ⟨kind, rfl⟩ <;> cases h <;> exact ⟨key, safe_cmp _ op r hop⟩

theorem safeRow_range (defd : Str → Bool) (g : Nat → Option Expr) :
    ∀ (n i : Nat), (∀ j e, g j = some e → cellKeyOk j e = true ∧ safe defd e = true) →
      safeRow defd ((List.range' i n).map g) i = true := by
  intro n
  induction n with
  | zero => exact fun _ _ => rfl
  | succ n ih =>
    intro i h
    show safeRow defd (g i :: (List.range' (i + 1) n).map g) i = true
    cases hg : g i with
    | none => exact ih (i + 1) h
    | some e => exact safeRow_some.mpr ⟨h i e hg, ih (i + 1) h⟩

theorem rowOf_safe (defd : Str → Bool) (cols : List Str) {pick : Str → Option Expr}
    (h : ∀ c x, pick c = some x → safe defd x = true ∧ (memberField x).isSome = true) :
    (rowOf cols pick).length = cols.length ∧ safeRow defd (rowOf cols pick) 0 = true := by
  refine ⟨by simp [rowOf], ?_⟩
  unfold rowOf
  rw [List.range_eq_range']
  apply safeRow_range
  intro j e hj
  cases hs : pick (cols.getD j []) with
  | none => rw [hs] at hj; cases hj
  | some x => rw [hs] at hj; exact rekey_cell defd j x e (h _ x hs).1 (h _ x hs).2 hj

theorem classify_inl (defd : Str → Bool) (cols : List Str) (y : Expr) (r : List (Option Expr))
    (hs : safe defd y = true) (h : matrixClassify cols y = .inl r) :
    r.length = cols.length ∧ safeRow defd r 0 = true := by
  rcases matrixClassify_inl h with ⟨f, hf, rfl⟩ | ⟨ms, rfl, hrow⟩
  · refine rowOf_safe defd cols fun i m hm => ?_
    split at hm <;> cases hm
    exact ⟨hs, by rw [hf]; rfl⟩
  · obtain ⟨hall, _, rfl⟩ := rowOfMembers_some hrow
    exact rowOf_safe defd cols fun i m hm =>
      ⟨(safe_group_iff.mp hs).2 m (List.mem_of_find?_eq_some hm), hall m (List.mem_of_find?_eq_some hm)⟩

theorem matrixOut_safe (defd : Str → Bool) (L : List Expr) (h55 : (L.foldl countFields []).length < 55296)
    (hmem : ∀ x ∈ L, safe defd x = true) : safe defd (matrixOut L) = true := by
  unfold matrixOut
  apply unwrapGroup_safe defd .or _ (.inr rfl)
  intro x hx
  rcases List.mem_append.mp hx with hx | hx
  · split at hx
    · cases hx
    · cases List.mem_singleton.mp hx
      refine safe_matrix.mpr ⟨by rw [List.length_map, (stableSort_perm _ _).length_eq]; exact h55, fun row hrow => ?_⟩
      obtain ⟨y, hy, hcl⟩ := mem_rows.mp hrow
      have := classify_inl defd _ y row (hmem y hy) hcl
      exact ⟨Nat.le_of_eq this.1, this.2⟩
  · exact hmem x (mem_rest.mp hx).1

theorem matrix_safe (defd : Str → Bool) : ∀ (fuel : Nat) (e : Expr),
    safe defd e = true → safe defd (matrix fuel e) = true :=
  -- by definition `safe` looks through `negate` / `nested`
  matrix_induct (P := fun e e' => safe defd e = true → safe defd e' = true) (leaf := fun _ h => h)
    (members := fun _ _ _ hop ih h =>
      safe_group_iff.mpr ⟨hop, List.forall_mem_map.mpr fun y hy => ih y hy ((safe_group_iff.mp h).2 y hy)⟩)
    (out := fun _ L h55 ih h => matrixOut_safe defd L h55 (safe_group_iff.mp (ih h)).2)
    (bin := fun _ _ _ _ ihl ihr => safe_bin_map ihl ihr) (shake := fun _ _ => shake1_safe defd _ _)
    (negate := fun _ _ ih => ih) (nested := fun _ _ _ ih => ih)

end Tau
