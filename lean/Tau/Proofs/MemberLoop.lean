import Tau.Mapping
import Tau.Proofs.Basics
/-
  The member loop of the sequence branch (parser.rs:1135-1381) through its step equation: one
  iteration adds `memberDelta` of the member to the state. What the loop does to an invariant is
  then what `memberDelta` does, plus a list induction.
-/
namespace Tau

/-- Each bucket of the member loop holds patterns of its own kind only. -/
structure SeqSt.WF (st : SeqSt) : Prop where
  exact : ∀ i ∈ st.exact, ∃ s, i.pat = .exact s
  startsWith : ∀ i ∈ st.startsWith, ∃ s, i.pat = .startsWith s
  endsWith : ∀ i ∈ st.endsWith, ∃ s, i.pat = .endsWith s
  contains : ∀ i ∈ st.contains, ∃ s, i.pat = .contains s
  regex : ∀ i ∈ st.regex, ∃ p, i.pat = .regex p

/-- Bucket-wise concatenation of two member-loop states; the cast flag is the left one's. -/
def SeqSt.add (a b : SeqSt) : SeqSt :=
  { exact := a.exact ++ b.exact, startsWith := a.startsWith ++ b.startsWith,
    endsWith := a.endsWith ++ b.endsWith, contains := a.contains ++ b.contains,
    regex := a.regex ++ b.regex, rest := a.rest ++ b.rest,
    boolean := a.boolean || b.boolean, cast := a.cast, mapping := a.mapping || b.mapping,
    number := a.number || b.number, string := a.string || b.string }

/-- What one list member contributes to the state (`c` = the `str()` cast flag of the key): the
    body of `parseMembers` with every update `{ st with b := st.b ++ [x] }` replaced by the
    singleton `{ b := [x] }`. -/
def memberDelta (E : RegexEngine) (ic : Bool) (f : Str) (misc : Option ModSym) (lhs : Expr) (c : Bool) :
    Yaml → Except Err SeqSt
  | .bool b =>
    if misc == some .int then .ok { cast := c, number := true, rest := [.bin lhs .eq (.int (if b then 1 else 0))] }
    else if misc == some .str then .ok { cast := c, string := true, exact := [⟨false, .exact (boolToStr b)⟩] }
    else .ok { cast := c, boolean := true, rest := [.bin lhs .eq (.bool b)] }
  | .null => .ok { cast := c, rest := [.bin lhs .eq .null] }
  | .num (.int i) =>
    if misc == some .str then .ok { cast := c, string := true, exact := [⟨false, .exact (intToStr i)⟩] }
    else .ok { cast := c, number := true, rest := [.bin lhs .eq (.int i)] }
  | .num (.big _ bits shown) | .num (.flt bits shown) =>
    if misc == some .int then .error .parseInvalidIdent
    else if misc == some .str then .ok { cast := c, string := true, exact := [⟨false, .exact shown⟩] }
    else .ok { cast := c, number := true, rest := [.bin lhs .eq (.float bits)] }
  | .str s =>
    match intoIdentifier E ic s with
    | .error err => .error err
    | .ok ident =>
      match castCheck misc ident.pat with
      | .error err => .error err
      | .ok () =>
        match ident.pat with
        | .exact _ => .ok { cast := c, string := true, exact := [ident] }
        | .startsWith _ => .ok { cast := c, string := true, startsWith := [ident] }
        | .endsWith _ => .ok { cast := c, string := true, endsWith := [ident] }
        | .contains _ => .ok { cast := c, string := true, contains := [ident] }
        | .regex _ => .ok { cast := c, string := true, regex := [ident] }
        | .any => .ok { cast := c, string := true, rest := [.search .any f c] }
        | .cmpI op i => .ok { cast := c, number := true, rest := [.bin lhs op (.int i)] }
        | .cmpF op b => .ok { cast := c, number := true, rest := [.bin lhs op (.float b)] }
  | .map m =>
    if misc.isSome then .error .parseInvalidIdent else
    match finishMapping (parseEntries E ic m) with
    | .error err => .error err
    | .ok x => .ok { cast := c, mapping := true, rest := [.nested f x] }
  | _ => .error .parseInvalidIdent

/-- A string member under `str(k)` sets the cast flag (parser.rs:1238), which the key has set already
    when the loop starts: from the start state the identity (`castAt_noop`). It is there for
    `parseMembers_cons` to hold from any state. -/
def castAt (misc : Option ModSym) (v : Yaml) (st : SeqSt) : SeqSt :=
  match v with
  | .str _ => if misc == some .str then { st with cast := true } else st
  | _ => st

theorem castAt_rest (misc : Option ModSym) (v : Yaml) (st : SeqSt) : (castAt misc v st).rest = st.rest := by
  unfold castAt; split
  · split <;> rfl
  · rfl

theorem parseMembers_cons (E : RegexEngine) (ic : Bool) (f : Str) (misc : Option ModSym) (lhs : Expr)
    (v : Yaml) (vs : List Yaml) (st : SeqSt) :
    parseMembers E ic f misc lhs (v :: vs) st =
      memberDelta E ic f misc lhs (castAt misc v st).cast v >>= fun δ =>
        parseMembers E ic f misc lhs vs ((castAt misc v st).add δ) := by
  -- `ite_bind` takes the rest of the loop into the branches of the `if`s; at a leaf the new state is the sum
  cases v with
  | null | bool =>
    simp only [parseMembers, memberDelta, castAt, ite_bind, ok_bind, SeqSt.add, List.append_nil, Bool.or_false,
      Bool.or_true]
  | num n =>
    cases n <;> simp only [parseMembers, memberDelta, castAt, ite_bind, ok_bind, error_bind, SeqSt.add,
      List.append_nil, Bool.or_false, Bool.or_true]
  | str s =>
    simp only [parseMembers, memberDelta, castAt]
    cases intoIdentifier E ic s with
    | error e => rfl
    | ok ident =>
      simp only []
      cases castCheck misc ident.pat with
      | error e => rfl
      | ok u => cases ident.pat <;> simp only [ok_bind, SeqSt.add, List.append_nil, Bool.or_false, Bool.or_true]
  | map m =>
    simp only [parseMembers, memberDelta, castAt, ite_bind, error_bind]
    cases finishMapping (parseEntries E ic m) with
    | error e => rfl
    | ok x => simp only [ok_bind, SeqSt.add, List.append_nil, Bool.or_false, Bool.or_true]
  | tagged | seq => rfl

theorem castAt_noop (misc : Option ModSym) (v : Yaml) (st : SeqSt) (hc : st.cast = (misc == some .str)) :
    castAt misc v st = st := by
  cases v with
  -- `{ st with cast := st.cast }` is `st` by eta
  | str _ => exact ite_elim (P := (· = st)) (fun h => hc.trans h ▸ rfl) fun _ => rfl
  | _ => rfl

/-- From a state with the key's cast flag `castAt` drops out. -/
theorem parseMembers_step (E : RegexEngine) (ic : Bool) (f : Str) (misc : Option ModSym) (lhs : Expr)
    (v : Yaml) (vs : List Yaml) (st : SeqSt) (hc : st.cast = (misc == some .str)) :
    parseMembers E ic f misc lhs (v :: vs) st =
      memberDelta E ic f misc lhs (misc == some .str) v >>= fun δ =>
        parseMembers E ic f misc lhs vs (st.add δ) := by
  rw [parseMembers_cons, castAt_noop misc v st hc, hc]

theorem parseMembers_cons_ok {E : RegexEngine} {ic : Bool} {f : Str} {misc : Option ModSym} {lhs : Expr}
    {v : Yaml} {vs : List Yaml} {st st' : SeqSt} (h : parseMembers E ic f misc lhs (v :: vs) st = .ok st') :
    ∃ δ, memberDelta E ic f misc lhs (castAt misc v st).cast v = .ok δ ∧
      parseMembers E ic f misc lhs vs ((castAt misc v st).add δ) = .ok st' :=
  bind_eq_ok.mp (parseMembers_cons E ic f misc lhs v vs st ▸ h)

theorem parseMembers_step_ok {E : RegexEngine} {ic : Bool} {f : Str} {misc : Option ModSym} {lhs : Expr}
    {v : Yaml} {vs : List Yaml} {st st' : SeqSt} (hc : st.cast = (misc == some .str))
    (h : parseMembers E ic f misc lhs (v :: vs) st = .ok st') :
    ∃ δ, memberDelta E ic f misc lhs (misc == some .str) v = .ok δ ∧
      parseMembers E ic f misc lhs vs (st.add δ) = .ok st' :=
  bind_eq_ok.mp (parseMembers_step E ic f misc lhs v vs st hc ▸ h)

theorem wf_empty (c : Bool) : ({ cast := c } : SeqSt).WF :=
  ⟨List.forall_mem_nil _, List.forall_mem_nil _, List.forall_mem_nil _, List.forall_mem_nil _,
    List.forall_mem_nil _⟩

theorem SeqSt.WF.add {a b : SeqSt} (ha : a.WF) (hb : b.WF) : (a.add b).WF :=
  ⟨fun i hi => (List.mem_append.mp hi).elim (ha.exact i) (hb.exact i),
   fun i hi => (List.mem_append.mp hi).elim (ha.startsWith i) (hb.startsWith i),
   fun i hi => (List.mem_append.mp hi).elim (ha.endsWith i) (hb.endsWith i),
   fun i hi => (List.mem_append.mp hi).elim (ha.contains i) (hb.contains i),
   fun i hi => (List.mem_append.mp hi).elim (ha.regex i) (hb.regex i)⟩

theorem SeqSt.WF.castAt {st : SeqSt} (h : st.WF) (misc : Option ModSym) (v : Yaml) : (castAt misc v st).WF := by
  unfold Tau.castAt
  split
  · split
    · exact ⟨h.exact, h.startsWith, h.endsWith, h.contains, h.regex⟩
    · exact h
  · exact h

theorem memberDelta_map_ok {E : RegexEngine} {ic : Bool} {f : Str} {misc : Option ModSym} {lhs : Expr}
    {c : Bool} {m : List (Yaml × Yaml)} {δ : SeqSt} (h : memberDelta E ic f misc lhs c (.map m) = .ok δ) :
    ∃ y, finishMapping (parseEntries E ic m) = .ok y ∧
      δ = { cast := c, mapping := true, rest := [.nested f y] } := by
  simp only [memberDelta] at h
  split at h
  · cases h
  · split at h
    · cases h
    · rename_i y hy; cases h; exact ⟨y, hy, rfl⟩

theorem SeqSt.add_assoc (a b c : SeqSt) : a.add (b.add c) = (a.add b).add c := by
  simp [SeqSt.add, List.append_assoc, Bool.or_assoc]

theorem SeqSt.add_empty (st : SeqSt) (c : Bool) : st.add { cast := c } = st := by
  obtain ⟨ex, sw, ew, co, rx, rest, bo, ca, ma, nu, sg⟩ := st
  simp [SeqSt.add]

/-- `Except.map` by cases; `parseMembers_hom` is stated with it. -/
def exMap {α β} (g : α → β) : Except Err α → Except Err β
  | .error e => .error e
  | .ok a => .ok (g a)

/-- The loop is a homomorphism for `add`: what it adds to a state does not depend on the state. -/
theorem parseMembers_add (E : RegexEngine) (ic : Bool) (f : Str) (misc : Option ModSym) (lhs : Expr) :
    ∀ (vs : List Yaml) (a b : SeqSt), a.cast = (misc == some .str) → b.cast = (misc == some .str) →
      parseMembers E ic f misc lhs vs (a.add b) = exMap (a.add ·) (parseMembers E ic f misc lhs vs b)
  | [], _, _, _, _ => rfl
  | v :: vs, a, b, ha, hb => by
    rw [parseMembers_step E ic f misc lhs v vs (a.add b) ha, parseMembers_step E ic f misc lhs v vs b hb]
    cases memberDelta E ic f misc lhs (misc == some .str) v with
    | error e => rfl
    | ok δ =>
      rw [ok_bind, ok_bind, ← SeqSt.add_assoc]
      exact parseMembers_add E ic f misc lhs vs a (b.add δ) ha hb

theorem parseMembers_hom (E : RegexEngine) (ic : Bool) (f : Str) (misc : Option ModSym) (lhs : Expr) :
    ∀ (vs : List Yaml) (st : SeqSt), st.cast = (misc == some .str) →
      parseMembers E ic f misc lhs vs st =
        exMap (st.add ·) (parseMembers E ic f misc lhs vs { cast := st.cast }) := fun vs st hc => by
  have h := parseMembers_add E ic f misc lhs vs st { cast := st.cast } hc hc
  rwa [SeqSt.add_empty] at h

theorem parseMembers_cast (E : RegexEngine) (ic : Bool) (f : Str) (misc : Option ModSym) (lhs : Expr)
    (vs : List Yaml) (st st' : SeqSt) (hc : st.cast = (misc == some .str))
    (h : parseMembers E ic f misc lhs vs st = .ok st') : st'.cast = st.cast := by
  rw [parseMembers_hom E ic f misc lhs vs st hc] at h
  generalize parseMembers E ic f misc lhs vs _ = r at h
  cases r <;> cases h
  rfl

theorem parseMembers_ok_members (E : RegexEngine) (ic : Bool) (f : Str) (misc : Option ModSym) (lhs : Expr) :
    ∀ (vs : List Yaml) (st st' : SeqSt), st.cast = (misc == some .str) →
      parseMembers E ic f misc lhs vs st = .ok st' →
      ∀ v ∈ vs, ∃ δ, memberDelta E ic f misc lhs (misc == some .str) v = .ok δ
  | [], _, _, _, _ => nofun
  | v :: vs, st, st', hc, h => by
    obtain ⟨δ, hδ, h⟩ := parseMembers_step_ok hc h
    exact List.forall_mem_cons.2 ⟨⟨δ, hδ⟩, parseMembers_ok_members E ic f misc lhs vs (st.add δ) st' hc h⟩

end Tau
