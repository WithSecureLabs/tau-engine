import Tau.Rule
import Tau.Proofs.Pratt
/-
  The loader's identifier-existence scan (rule.rs:104-125) works on TOKEN POSITIONS: every
  identifier token must be defined, except one two places behind a modifier token (`int ( f`);
  the solver's `unreachable!()` for an undefined identifier is about the TREE.  The link: each
  parser rule consumes a prefix of its input and leaves the two-token look-back clean.
-/
namespace Tau

def Token.isMod : Token → Bool
  | .modifier _ => true
  | _ => false

/-- The identifier tokens the loader's scan checks, given the look-back. -/
def scan : Bool → Bool → List Token → List Str
  | _, _, [] => []
  | m2, m1, t :: ts =>
    (match t with
     | .ident s => if m2 then [] else [s]
     | _ => []) ++ scan m1 t.isMod ts

/-- What one parser function did: it consumed `pre`, where the scan finds `ids` and behind which it
    goes on as from the start (the look-back is clean again), and every identifier of the result
    beyond those of `base` is in `ids`. -/
def Consumed (base : List Str) (ts : List Token) (e : Expr) (rest : List Token) : Prop :=
  ∃ pre ids, ts = pre ++ rest ∧ (∀ b, scan false false (pre ++ b) = ids ++ scan false false b) ∧
    ∀ i ∈ condIdents e, i ∈ base ++ ids

theorem Consumed.refl {base : List Str} {ts : List Token} {e : Expr} (h : ∀ i ∈ condIdents e, i ∈ base) :
    Consumed base ts e ts :=
  ⟨[], [], rfl, fun _ => rfl, fun i hi => List.mem_append_left _ (h i hi)⟩

/-- A token that is no modifier in front. -/
theorem Consumed.cons {base : List Str} {t : Token} {ts rest : List Token} {e : Expr} (ht : t.isMod = false)
    (h : Consumed base ts e rest) : Consumed base (t :: ts) e rest := by
  obtain ⟨p, ids, rfl, hs, hid⟩ := h
  refine ⟨t :: p, scan false false [t] ++ ids, rfl, fun b => ?_, fun i hi => ?_⟩
  · show _ ++ scan false t.isMod (p ++ b) = ((_ ++ []) ++ ids) ++ scan false false b
    rw [ht, hs, List.append_nil, List.append_assoc]
  · exact List.mem_append.mpr ((List.mem_append.mp (hid i hi)).imp_right (List.mem_append_right _))

/-- One call after another: `x` is what the first built and the second goes on from. -/
theorem Consumed.seq {base : List Str} {ts mid rest : List Token} {x e : Expr} (h1 : Consumed [] ts x mid)
    (h2 : Consumed (base ++ condIdents x) mid e rest) : Consumed base ts e rest := by
  obtain ⟨p1, i1, rfl, hs1, hid1⟩ := h1
  obtain ⟨p2, i2, rfl, hs2, hid2⟩ := h2
  refine ⟨p1 ++ p2, i1 ++ i2, by simp, fun b => by rw [List.append_assoc, hs1, hs2, List.append_assoc],
    fun i hi => ?_⟩
  rcases List.mem_append.mp (hid2 i hi) with hb | hs
  · rcases List.mem_append.mp hb with hb | hx
    · exact List.mem_append_left _ hb
    · exact List.mem_append_right _ (List.mem_append_left _ (hid1 i hx))
  · exact List.mem_append_right _ (List.mem_append_right _ hs)

theorem parses_scan {c : Call} {e : Expr} {rest : List Token} (h : Parses c e rest) :
    match (generalizing := false) c with
    | .loop _ left ts => Consumed (condIdents left) ts e rest
    | .all ts | .expr _ ts | .nud ts => Consumed [] ts e rest := by
  induction h with
  | all _ ih => exact ih
  | expr _ _ ihn ihl => exact ihn.seq ihl
  | stop => exact .refl fun _ hi => hi
  | led _ _ _ _ ihr ihl => exact (ihr.seq ihl).cons rfl
  | @paren ts' e _ ih =>
    obtain ⟨body, closing, hin, hts, hcl⟩ := collectParen_split ts' 1 [] _ _ rfl
    obtain ⟨p, ids, hp, hs, hid⟩ := ih
    obtain rfl : body = p := by simpa using hin.symm.trans hp
    refine .cons rfl ⟨body ++ closing, ids, hts, fun b => ?_, hid⟩
    rw [List.append_assoc, hs]
    rcases hcl with rfl | rfl <;> rfl
  | float | int => exact .cons rfl (.refl nofun)
  | ident => exact ⟨[_], [_], rfl, fun _ => rfl, fun i hi => hi⟩
  | not _ _ ih => exact ih.cons rfl
  | cast heq => cases parseParenIdent_tokens heq; exact ⟨[_, _, _, _], [], rfl, fun _ => rfl, nofun⟩
  | @matchAll _ s _ heq =>
    cases parseParenIdent_tokens heq; exact ⟨[_, _, _, _], [s], rfl, fun _ => rfl, fun i hi => hi⟩
  | @matchOf _ s _ _ heq =>
    obtain ⟨c, rfl⟩ := parseOfArgs_tokens heq
    exact ⟨[_, _, _, _, _, _], [s], rfl, fun _ => rfl, fun i hi => hi⟩

theorem parse_idents_scanned (ts : List Token) (e : Expr) (h : parse ts = .ok e) :
    ∀ i ∈ condIdents e, i ∈ scan false false ts := by
  obtain ⟨pre, ids, rfl, hs, hid⟩ := parses_scan (Parses.of_parseAll h)
  rw [hs []]
  exact fun i hi => List.mem_append_left _ (hid i hi)

/-- A member of `scan` sits at a position the index-based scan of the loader does not skip: the
    token two places before it is no modifier (`m2`, `m1` stand for the two places before the list). -/
theorem scan_index : ∀ (l : List Token) (m2 m1 : Bool) (s : Str), s ∈ scan m2 m1 l →
    ∃ j : Nat, l[j]? = some (.ident s) ∧ (m2 :: m1 :: l.map Token.isMod)[j]? = some false
  | [], _, _, _, h => nomatch h
  | t :: ts, m2, m1, s, h => by
    rcases List.mem_append.mp h with h | h
    · cases t <;> simp at h
      obtain ⟨hm, rfl⟩ := h
      exact ⟨0, List.getElem?_cons_zero, by rw [List.getElem?_cons_zero, hm]⟩
    · obtain ⟨j, hj, hm⟩ := scan_index ts m1 t.isMod s h
      exact ⟨j + 1, by rwa [List.getElem?_cons_succ], by rwa [List.getElem?_cons_succ, List.map_cons]⟩

theorem identsPresent_scan (ids : Ids) (ts : List Token) (h : identsPresent ids ts = true) :
    ∀ s ∈ scan false false ts, (lookupId ids s).isSome = true := by
  intro s hs
  obtain ⟨j, hj, hm⟩ := scan_index ts false false s hs
  unfold identsPresent at h
  rw [List.all_eq_true] at h
  -- at `j`, `identsPresent` asks "skipped or defined"; by `scan_index` `j` is not skipped
  have hjr := h j (List.mem_range.mpr (List.getElem?_eq_some_iff.mp hj).1)
  simp only [hj, Bool.or_eq_true, Bool.and_eq_true, decide_eq_true_eq] at hjr
  rcases hjr with ⟨hgt, hmod⟩ | hdef
  · obtain ⟨k, rfl⟩ : ∃ k, j = k + 2 := ⟨j - 2, by omega⟩
    rw [List.getElem?_cons_succ, List.getElem?_cons_succ, List.getElem?_map] at hm
    rw [Nat.add_sub_cancel] at hmod
    cases hq : ts[k]? with
    | none => rw [hq] at hm; cases hm
    | some tk =>
      rw [hq] at hm hmod
      cases tk with
      | modifier m => cases hm
      | _ => cases hmod
  · exact hdef

end Tau
