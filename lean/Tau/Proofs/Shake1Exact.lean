import Tau.Proofs.Shake1Or
import Tau.Proofs.Shake1Shape
/-
  `shake_1` is exact (same three-valued result on every document) on the class `e1OK`: everything
  except and-groups holding nested mappings (they are moved behind the other conjuncts) and nested
  mappings directly on an all()-list.  The or-arm is `or_armG` (Shake1Or.lean) at `e1OK` and `=`.
  Facts three and four of `Good` hold of every tree (`shake1_shape`) and are never read.
-/
namespace Tau

mutual
def e1OK : Expr → Bool
  | .group .and es => !es.isEmpty && e1OKL es && !hasTopNestedL es
  | .group .or es => !es.isEmpty && e1OKL es
  | .group _ _ => false
  | .bin l .and r => e1OK l && e1OK r
  | .bin l .or r => e1OK l && e1OK r
  | .bin l _ r => isLeafE l && isLeafE r
  | .match _ x => matchChildOK x && e1OK x
  | .negate x => e1OK x
  | .nested _ x => nestedChildOK x && !nestedSpecial x && e1OK x
  | .search (.ac ctx _) _ _ => !ctx.isEmpty
  | .search (.regexSet ps _) _ _ => !ps.isEmpty
  | _ => true
def e1OKL : List Expr → Bool
  | [] => true
  | e :: es => e1OK e && e1OKL es
end

/-- The fifth fact serves the child of an all()/of().  Groups are left out: a group child is mapped
    over (`matchArg`), and the group arms regroup and unwrap, which `Sim` does not cover. -/
def Good (E : RegexEngine) (K : IdentK) (fuel : Nat) (e : Expr) : Prop :=
  e1OK (shake1 fuel e) = true ∧ (∀ d, solveG E K d (shake1 fuel e) = solveG E K d e) ∧
  (mayBecomeMatch (shake1 fuel e) = true → mayBecomeMatch e = true) ∧
  (hasTopNested (shake1 fuel e) = true → hasTopNested e = true) ∧
  ((∀ op es, e ≠ .group op es) → matchChildOK e = true → Sim E K e (shake1 fuel e))

theorem good_of {E : RegexEngine} {K : IdentK} {fuel : Nat} {e : Expr} (c : e1OK (shake1 fuel e) = true)
    (v : ∀ d, solveG E K d (shake1 fuel e) = solveG E K d e)
    (s : (∀ op es, e ≠ .group op es) → matchChildOK e = true → Sim E K e (shake1 fuel e)) :
    Good E K fuel e :=
  ⟨c, v, (shake1_shape fuel e).1, (shake1_shape fuel e).2, s⟩

theorem good_refl {E : RegexEngine} {K : IdentK} {fuel : Nat} {e : Expr} (hs : shake1 fuel e = e)
    (h : e1OK e = true) : Good E K fuel e := by
  rw [Good, hs]; exact ⟨h, fun _ => rfl, id, id, fun _ _ => Sim.refl e⟩

theorem e1OKL_iff (l : List Expr) : e1OKL l = true ↔ ∀ x ∈ l, e1OK x = true :=
  allL_iff rfl (fun _ _ => rfl) l

/-- The three `.bin` lines of the class as one: a Boolean connective asks the class of both sides, a comparison leaves. -/
theorem e1OK_bin (l : Expr) (op : BoolSym) (r : Expr) :
    e1OK (.bin l op r) = if boolOp op = true then e1OK l && e1OK r else isLeafE l && isLeafE r := by
  cases op <;> rfl

theorem e1OK_group (op : BoolSym) (es : List Expr) :
    e1OK (.group op es) = true ↔
      es ≠ [] ∧ (∀ x ∈ es, e1OK x = true) ∧ (op = .or ∨ op = .and ∧ hasTopNestedL es = false) := by
  cases op with
  | and => simp [e1OK, e1OKL_iff, and_assoc]
  | or => simp [e1OK, e1OKL_iff]
  | _ => exact ⟨nofun, fun h => by obtain h | ⟨h, _⟩ := h.2.2 <;> cases h⟩

theorem e1OK_nested (f : Str) (b : Expr) :
    e1OK (.nested f b) = true ↔ e1OK b = true ∧ nestedChildOK b = true ∧ nestedSpecial b = false := by
  simp only [e1OK, Bool.and_eq_true, Bool.not_eq_true']
  exact ⟨fun h => ⟨h.2, h.1.1, h.1.2⟩, fun h => ⟨⟨h.2.1, h.2.2⟩, h.1⟩⟩

theorem nested_plain (E : RegexEngine) (K : IdentK) (n : Nat) (ih : ∀ e, e1OK e = true → Good E K n e)
    (f : Str) (x : Expr) (hp : e1OK x = true ∧ nestedChildOK x = true ∧ nestedSpecial x = false) :
    e1OK (.nested f (shake1 n x)) = true ∧
      ∀ d, solveG E K d (.nested f (shake1 n x)) = solveG E K d (.nested f x) := by
  obtain ⟨h1, h2, h3⟩ := hp
  have G := ih x h1
  obtain ⟨n1, n2⟩ := nestedBody_ok n x h2 h3
  exact ⟨(e1OK_nested _ _).mpr ⟨G.1, n2, n1⟩, nested_generic_congr E K f x (shake1 n x) h3 n1 G.2.1⟩

theorem buildNested_spec (E : RegexEngine) (K : IdentK) (fuel : Nat)
    (IH : ∀ e, e1OK e = true → Good E K fuel e) (f : Str) (xs : List Expr) (hne : xs ≠ [])
    (hb : ∀ b ∈ xs, e1OK b = true ∧ nestedChildOK b = true ∧ nestedSpecial b = false) :
    e1OK (buildNested fuel (f, xs)) = true ∧
    ∀ d, solveG E K d (buildNested fuel (f, xs)) = Tri.or (xs.map (fun b => solveG E K d (.nested f b))) := by
  match xs, hne, hb with
  | [x], _, hb =>
    obtain ⟨c, v⟩ := nested_plain E K fuel IH f x (hb x List.mem_cons_self)
    exact ⟨c, fun d => (v d).trans (by simp only [List.map_cons, List.map_nil, or_single])⟩
  | x :: y :: rest, _, hb =>
    have hg : e1OK (.group .or (x :: y :: rest)) = true :=
      (e1OK_group _ _).mpr ⟨nofun, fun b hb' => (hb b hb').1, Or.inl rfl⟩
    obtain ⟨c, v⟩ := nested_plain E K fuel IH f (.group .or (x :: y :: rest)) ⟨hg, rfl, rfl⟩
    exact ⟨c, fun d => (v d).trans
      (nested_or_merge E K d f (x :: y :: rest) nofun (fun b hb' => (hb b hb').2.2))⟩

theorem e1OK_search (s : Search) (f : Str) (c : Bool) : e1OK (.search s f c) = memberOK (.search s f c) := by
  cases s <;> rfl

theorem buildNeedle_spec (E : RegexEngine) (K : IdentK) (d : Doc) (φ : Tri → Prop) (hφ : Dist φ)
    (q : (Str × Bool × Bool) × List MatchType) (hne : q.2 ≠ []) :
    e1OK (buildNeedle q) = true ∧
    (φ (solveG E K d (buildNeedle q)) ↔
      ∃ mt ∈ q.2, φ (solveSearch E d (.ac [mt] q.1.2.2) q.1.1 q.1.2.1)) :=
  ⟨buildNeedle_class e1OK_search q hne, buildNeedle_sem E K d φ hφ q hne⟩

theorem buildPattern_spec (E : RegexEngine) (K : IdentK) (d : Doc) (φ : Tri → Prop) (hφ : Dist φ)
    (q : (Str × Bool × Bool) × List Str) (hne : q.2 ≠ []) :
    e1OK (buildPattern q) = true ∧
    (φ (solveG E K d (buildPattern q)) ↔
      ∃ p ∈ q.2, φ (solveSearch E d (.regex p q.1.2.2) q.1.1 q.1.2.1)) :=
  ⟨buildPattern_class e1OK_search q hne, buildPattern_sem E K d φ hφ q hne⟩

theorem nested_bucket_spec (E : RegexEngine) (K : IdentK) (fuel : Nat)
    (IH : ∀ e, e1OK e = true → Good E K fuel e) (L : List Expr) (hL : ∀ x ∈ L, e1OK x = true)
    (q : Str × List Expr) (hq : q ∈ (L.foldl orClassify {}).nested) :
    e1OK (buildNested fuel q) = true ∧
      ∀ d, solveG E K d (buildNested fuel q) = Tri.or (q.2.map fun b => solveG E K d (.nested q.1 b)) :=
  have hb := orB_classified L
  buildNested_spec E K fuel IH q.1 q.2 (hb.nestedNe q hq) fun b h => (e1OK_nested q.1 b).mp (hL _ (hb.nested q hq b h).1)

theorem e1OK_memberOK (x : Expr) (h : e1OK x = true) : memberOK x = true :=
  memberOK_of_class e1OK_search x h

theorem orOut_value (E : RegexEngine) (K : IdentK) (d : Doc) (fuel : Nat)
    (IH : ∀ e, e1OK e = true → Good E K fuel e) (L : List Expr) (hL : ∀ x ∈ L, e1OK x = true) :
    solveG E K d (.group .or (orOut fuel (L.foldl orClassify {}))) = solveG E K d (.group .or L) := by
  rw [group_or_value, group_or_value]
  have key : ∀ φ, Dist φ → (φ (Tri.or ((orOut fuel (L.foldl orClassify {})).map (solveG E K d))) ↔
      φ (Tri.or (L.map (solveG E K d)))) := by
    intro φ hφ
    rw [hφ.map, hφ.map]
    refine orOut_Ex E K d φ hφ fuel L (fun x hx => e1OK_memberOK x (hL x hx)) (fun q hq => ?_)
    rw [(nested_bucket_spec E K fuel IH L hL q hq).2 d, hφ.map]
  -- `φ` is given: left to unification, `?φ (Tri.or …) =?= (Tri.or … = .t)` unfolds the whole rebuild
  exact tri_eq_of _ _ (key (· = .t) dist_t) (key (· ≠ .m) dist_nm)

theorem not_mbm_search (s : Search) (f : Str) (c : Bool) : mayBecomeMatch (.search s f c) = false := rfl
theorem not_mbm_nested (f : Str) (b : Expr) : mayBecomeMatch (.nested f b) = false := rfl

theorem e1OK_group_mem (op : BoolSym) (es : List Expr) (h : e1OK (.group op es) = true) :
    ∀ y ∈ es, e1OK y = true :=
  ((e1OK_group op es).mp h).2.1

theorem e1OK_group_map (n : Nat) (op : BoolSym) (es : List Expr) (h : e1OK (.group op es) = true)
    (hL : ∀ y ∈ es, e1OK (shake1 n y) = true) : e1OK (.group op (es.map (shake1 n))) = true := by
  obtain ⟨h1, _, h3⟩ := (e1OK_group op es).mp h
  exact (e1OK_group op _).mpr ⟨by simpa using h1, List.forall_mem_map.mpr hL,
    h3.imp_right (And.imp_right (hasTopNestedL_shake1 n es))⟩

/-- The operand of an all()/of() after the pass: in the class, and dispatched like the operand before. -/
theorem argGood (E : RegexEngine) (K : IdentK) (n : Nat) (ih : ∀ e, e1OK e = true → Good E K n e)
    (x : Expr) (h : e1OK x = true) (hm : matchChildOK x = true) :
    e1OK (matchArg (shake1 n) x) = true ∧ Sim E K x (matchArg (shake1 n) x) := by
  unfold matchArg
  split
  · rename_i op es
    have hmem := e1OK_group_mem op es h
    refine ⟨e1OK_group_map n op es h fun y hy => (ih y (hmem y hy)).1, ?_⟩
    apply Sim.group op es _ (of_decide_eq_true hm)
    intro d
    rw [List.map_map]
    exact List.map_congr_left fun y hy => (ih y (hmem y hy)).2.1 d
  · rename_i hng
    exact ⟨(ih _ h).1, (ih _ h).2.2.2.2 hng hm⟩

theorem good_and (E : RegexEngine) (K : IdentK) (n : Nat) (ih : ∀ e, e1OK e = true → Good E K n e)
    (es : List Expr) (h : e1OK (.group .and es) = true) : Good E K (n + 1) (.group .and es) := by
  have hmem := e1OK_group_mem _ es h
  have hg := e1OK_group_map n .and es h fun y hy => (ih y (hmem y hy)).1
  -- no member becomes a nested mapping, so the arm has nothing to merge
  have ht : hasTopNestedL (es.map (shake1 n)) = false :=
    (((e1OK_group _ _).mp hg).2.2.resolve_left nofun).2
  have hform : shake1 (n + 1) (.group .and es) = unwrapGroup .and (es.map (shake1 n)) := by
    rw [shake1_and, andOut_eq_self n _ fun x hx =>
      isNestedE_of_not_top x ((hasTopNestedL_eq_false _).mp ht x hx)]
    simp
  refine good_of ?_ (fun d => ?_) (fun hng => absurd rfl (hng .and es)) <;> rw [hform]
  · exact unwrapGroup_ind .and _ (e1OK · = true) hg (e1OK_group_mem _ _ hg)
  · rw [unwrapGroup_solve E K d .and _ (Or.inl rfl)]
    exact group_map_value E K d .and _ _ fun y hy => (ih y (hmem y hy)).2.1 d

theorem e1OK_or (es : List Expr) : e1OK (.group .or es) = true ↔ es ≠ [] ∧ ∀ x ∈ es, e1OK x = true := by
  rw [e1OK_group]; simp

theorem good_or (E : RegexEngine) (K : IdentK) (n : Nat) (ih : ∀ e, e1OK e = true → Good E K n e)
    (es : List Expr) (h : e1OK (.group .or es) = true) : Good E K (n + 1) (.group .or es) := by
  obtain ⟨c, v⟩ := or_armG (R := Eq) E K e1OK_or Eq.trans
    (fun d es g hg => group_map_value E K d .or es g hg) n
    (fun e h => ⟨(ih e h).1, (ih e h).2.1⟩)
    (fun L hL => ⟨orOut_class e1OK_search n L hL fun q hq => (nested_bucket_spec E K n ih L hL q hq).1,
      fun d => orOut_value E K d n ih L hL⟩) es h
  exact good_of c v fun hng => absurd rfl (hng .or es)

theorem shake1_good (E : RegexEngine) (K : IdentK) : ∀ fuel e, e1OK e = true → Good E K fuel e := by
  intro fuel
  induction fuel with
  | zero => intro e h; exact good_refl rfl h
  | succ n ih =>
    intro e h
    cases e with
    | group op es =>
      rcases ((e1OK_group op es).mp h).2.2 with rfl | ⟨rfl, _⟩
      · exact good_or E K n ih es h
      · exact good_and E K n ih es h
    | bin l op r =>
      have h' := h
      rw [e1OK_bin] at h'
      split at h' <;> simp only [Bool.and_eq_true] at h'
      · rename_i hop
        exact good_of (by rw [shake1_bin, e1OK_bin, hop, (ih l h'.1).1, (ih r h'.2).1]; rfl)
          (fun d => bin_congr E K (boolOp_iff.mp hop) ((ih l h'.1).2.1 d) ((ih r h'.2).2.1 d))
          (fun _ hm => by rw [matchChildOK_bin (boolOp_iff.mp hop)] at hm; cases hm)
      · exact good_refl (shake1_cmp (n + 1) l op r h'.1 h'.2) h
    | «match» k x =>
      have h' := h
      simp only [e1OK, Bool.and_eq_true] at h'
      obtain ⟨c, S⟩ := argGood E K n ih x h'.2 h'.1
      refine good_of ?_ (fun d => ?_) (fun _ _ => ?_) <;> rw [shake1_match]
      · simp only [e1OK, Bool.and_eq_true]
        exact ⟨sim_matchChildOK E K x _ S h'.1, c⟩
      · exact sim_match E K x _ S k d
      · exact Sim.match k x _ S
    | negate x =>
      -- by definition the pass maps over `negate` and the class looks through it
      have G := ih x h
      have hv : ∀ d, solveG E K d (.negate (shake1 n x)) = solveG E K d (.negate x) := by
        intro d; simp only [solveG, G.2.1 d]
      exact good_of G.1 hv fun _ _ => Sim.gen _ _ rfl rfl hv
    | nested f x =>
      obtain ⟨c, hv⟩ := nested_plain E K n ih f x ((e1OK_nested f x).mp h)
      exact good_of c hv fun _ _ => Sim.gen _ _ rfl rfl hv
    | _ => exact good_refl rfl h

end Tau
