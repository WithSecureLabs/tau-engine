import Tau.Pratt
import Tau.Proofs.Basics
/-
  The Pratt parser without fuel, and what it builds.  `Parses c e rest` reads "the call `c` returns
  `e` and leaves `rest`", with one rule per way the source returns `Ok`; what the four functions
  return the rules derive (the converse is in `Tau.Proofs.PrattTotal`), so a fact about successful
  parses is an induction on `Parses`.
-/
namespace Tau

inductive Call
  | all (ts : List Token)
  | expr (rbp : Nat) (ts : List Token)
  | loop (rbp : Nat) (left : Expr) (ts : List Token)
  | nud (ts : List Token)

def Call.run (f : Nat) : Call → Except Err (Expr × List Token)
  | .all ts => (parseAll f ts).map (·, [])
  | .expr rbp ts => parseExpr f rbp ts
  | .loop rbp l ts => parseLoop f rbp l ts
  | .nud ts => parseNud f ts

inductive Parses : Call → Expr → List Token → Prop
  | all {ts e} : Parses (.expr 0 ts) e [] → Parses (.all ts) e []
  | expr {rbp ts l mid e rest} : Parses (.nud ts) l mid → Parses (.loop rbp l mid) e rest →
      Parses (.expr rbp ts) e rest
  | stop {rbp l ts} : (∀ t ∈ ts.head?, rbp ≥ t.bp) → Parses (.loop rbp l ts) l ts
  | led {rbp l op ts r mid e rest} : rbp < (Token.op op).bp → Parses (.expr (Token.op op).bp ts) r mid →
      ledCheck op l r = .ok () → Parses (.loop rbp (.bin l op r) mid) e rest →
      Parses (.loop rbp l (.op op :: ts)) e rest
  | paren {ts e} : Parses (.all (collectParen 1 ts []).1) e [] →
      Parses (.nud (.lparen :: ts)) e (collectParen 1 ts []).2
  | float {b ts} : Parses (.nud (.float b :: ts)) (.float b) ts
  | ident {n ts} : Parses (.nud (.ident n :: ts)) (.ident n) ts
  | int {i ts} : Parses (.nud (.int i :: ts)) (.int i) ts
  | not {ts r rest} : Parses (.expr 95 ts) r rest → negatable r = true →
      Parses (.nud (.miscNot :: ts)) (.negate r) rest
  | cast {m ts s rest} : parseParenIdent ts = .ok (s, rest) → Parses (.nud (.modifier m :: ts)) (.cast s m) rest
  | matchAll {ts s rest} : parseParenIdent ts = .ok (s, rest) →
      Parses (.nud (.matchAll :: ts)) (.match .all (.ident s)) rest
  | matchOf {ts s n rest} : parseOfArgs ts = .ok (s, n, rest) →
      Parses (.nud (.matchOf :: ts)) (.match (.of n) (.ident s)) rest

theorem Call.run_all {f : Nat} {ts r : List Token} {e : Expr} :
    (Call.all ts).run f = .ok (e, r) ↔ parseAll f ts = .ok e ∧ r = [] := by
  cases h : parseAll f ts <;> simp [Call.run, Except.map, h, eq_comm]

/-! The four functions one level down, as binds. -/

theorem parseAll_succ (n : Nat) (ts : List Token) : parseAll (n + 1) ts =
    parseExpr n 0 ts >>= fun p => if p.2.isEmpty then .ok p.1 else .error .parseInvalidExpr := by
  simp only [parseAll]; cases parseExpr n 0 ts <;> rfl

theorem parseExpr_succ (n rbp : Nat) (ts : List Token) : parseExpr (n + 1) rbp ts =
    parseNud n ts >>= fun p => parseLoop n rbp p.1 p.2 := by
  simp only [parseExpr]; cases parseNud n ts <;> rfl

theorem parseLoop_succ (n rbp : Nat) (left : Expr) (next : Token) (ts : List Token) :
    parseLoop (n + 1) rbp left (next :: ts) =
      if rbp ≥ next.bp then .ok (left, next :: ts) else
      match next with
      | .op sym => parseExpr n next.bp ts >>= fun p =>
          ledCheck sym left p.1 >>= fun _ => parseLoop n rbp (.bin left sym p.1) p.2
      | _ => .error .parseInvalidToken := by
  simp only [parseLoop]
  split
  · rfl
  · cases next <;> try rfl
    simp only []
    cases parseExpr n _ ts with
    | error e => rfl
    | ok p => simp only [bind, Except.bind]; cases ledCheck _ left p.1 <;> rfl

theorem parseNud_succ (n : Nat) (t : Token) (ts : List Token) : parseNud (n + 1) (t :: ts) =
    match t with
    | .lparen => parseAll n (collectParen 1 ts []).1 >>= fun e => .ok (e, (collectParen 1 ts []).2)
    | .float b => .ok (.float b, ts)
    | .ident i => .ok (.ident i, ts)
    | .int i => .ok (.int i, ts)
    | .miscNot => parseExpr n 95 ts >>= fun p =>
        if negatable p.1 then .ok (.negate p.1, p.2) else .error .parseInvalidToken
    | .modifier m => parseParenIdent ts >>= fun p => .ok (.cast p.1 m, p.2)
    | .matchAll => parseParenIdent ts >>= fun p => .ok (.match .all (.ident p.1), p.2)
    | .matchOf => parseOfArgs ts >>= fun p => .ok (.match (.of p.2.1) (.ident p.1), p.2.2)
    | .comma | .rparen | .op _ => .error .parseInvalidToken := by
  cases t <;> simp only [parseNud] <;> first | rfl | (split <;> simp only [*] <;> rfl)

theorem Parses.sound {f : Nat} {c : Call} {e : Expr} {rest : List Token}
    (h : c.run f = .ok (e, rest)) : Parses c e rest := by
  induction f generalizing c e rest with
  | zero => cases c <;> simp [Call.run, parseAll, parseExpr, parseLoop, parseNud, Except.map] at h
  | succ n ih =>
    cases c with
    | all ts =>
      obtain ⟨ha, rfl⟩ := Call.run_all.mp h
      rw [parseAll_succ] at ha
      obtain ⟨⟨e', rest⟩, hx, hr⟩ := bind_eq_ok.mp ha
      cases rest with
      | nil => cases hr; exact .all (ih (c := .expr 0 ts) hx)
      | cons => cases hr
    | expr rbp ts =>
      simp only [Call.run, parseExpr_succ] at h
      obtain ⟨p, hn, hl⟩ := bind_eq_ok.mp h
      exact .expr (ih (c := .nud ts) hn) (ih (c := .loop rbp _ _) hl)
    | loop rbp l ts =>
      cases ts with
      | nil => simp only [Call.run, parseLoop] at h; cases h; exact .stop (by simp)
      | cons next ts' =>
        simp only [Call.run, parseLoop_succ] at h
        split at h
        · cases h; exact .stop (by simpa)
        · cases next <;> try cases h
          obtain ⟨p, hx, h⟩ := bind_eq_ok.mp h
          obtain ⟨_, hc, hl⟩ := bind_eq_ok.mp h
          exact .led (by omega) (ih (c := .expr _ ts') hx) hc (ih (c := .loop rbp _ _) hl)
    | nud ts =>
      cases ts with
      | nil => simp [Call.run, parseNud] at h
      | cons t ts' =>
        simp only [Call.run, parseNud_succ] at h
        cases t <;> try cases h
        · obtain ⟨e', ha, hr⟩ := bind_eq_ok.mp h
          cases hr; exact .paren (ih (c := .all _) (Call.run_all.mpr ⟨ha, rfl⟩))
        · exact .float
        · exact .ident
        · exact .int
        · obtain ⟨p, hp, hr⟩ := bind_eq_ok.mp h
          cases hr; exact .cast hp
        · obtain ⟨p, hx, hr⟩ := bind_eq_ok.mp h
          split at hr <;> cases hr
          exact .not (ih (c := .expr 95 ts') hx) ‹_›
        · obtain ⟨p, hp, hr⟩ := bind_eq_ok.mp h
          cases hr; exact .matchAll hp
        · obtain ⟨p, hp, hr⟩ := bind_eq_ok.mp h
          cases hr; exact .matchOf hp

theorem Parses.of_parseAll {f : Nat} {ts : List Token} {e : Expr} (h : parseAll f ts = .ok e) :
    Parses (.all ts) e [] :=
  Parses.sound (Call.run_all.mpr ⟨h, rfl⟩)

/-- What the condition parser can build. -/
inductive PShape : Expr → Prop where
  | ident (i) : PShape (.ident i)
  | matchIdent (k i) : PShape (.match k (.ident i))
  | litFloat (b) : PShape (.float b)
  | litInt (i) : PShape (.int i)
  | litCast (f m) : PShape (.cast f m)
  | negate {e} : PShape e → negatable e = true → PShape (.negate e)
  | binBool {l r} (op) : (op = .and ∨ op = .or) → PShape l → PShape r →
      l.isSolvable = true → r.isSolvable = true → PShape (.bin l op r)
  | cmp (l op r) : op ≠ .and → op ≠ .or → l.isSolvable = false → r.isSolvable = false →
      PShape (.bin l op r)

/-- `ledCheckEq`, `ledCheckCmp` and `ledCheckBool` have one shape: a test of the left operand, a
    test of the right operand, then a table. -/
theorem guards_ok {a b : Bool} {e₁ e₂ : Err} {x : Except Err Unit}
    (h : (if !a then .error e₁ else if !b then .error e₂ else x) = .ok ()) : a = true ∧ b = true := by
  cases a <;> cases b <;> simp at h <;> simp

theorem guards_error {a b : Bool} {e₁ e₂ e : Err} {x : Except Err Unit}
    (h : (if !a then .error e₁ else if !b then .error e₂ else x) = .error e) :
    e = e₁ ∨ e = e₂ ∨ x = .error e := by
  cases a <;> cases b <;> simp at h <;> simp [h]

theorem ledCheck_ok {op : BoolSym} {l r : Expr} (h : ledCheck op l r = .ok ()) :
    (l.isSolvable = true ↔ op = .and ∨ op = .or) ∧ (r.isSolvable = true ↔ op = .and ∨ op = .or) := by
  cases op
  case and | or => simpa using guards_ok h
  -- the operand tests of `==` and of `<` `<=` `>` `>=` pass on literals and casts only
  all_goals
    obtain ⟨hl, hr⟩ := guards_ok h
    have : l.isSolvable = false := by split at hl <;> first | rfl | cases hl
    have : r.isSolvable = false := by split at hr <;> first | rfl | cases hr
    simp [*]

theorem ledCheck_error {op : BoolSym} {l r : Expr} {e : Err} (h : ledCheck op l r = .error e) :
    e = .parseLedPreceding ∨ e = .parseLedFollowing ∨ e = .parseInvalidExpr := by
  have table : ∀ {x : Except Err Unit}, e = .parseLedPreceding ∨ e = .parseLedFollowing ∨ x = .error e →
      (x = .error e → e = .parseInvalidExpr) → _ := fun h t => h.imp_right (·.imp_right t)
  cases op
  case and | or => exact table (guards_error h) nofun
  all_goals
    refine table (guards_error h) fun h => ?_
    split at h <;> cases h
    rfl

theorem ledCheck_shape {op : BoolSym} {l r : Expr} (hl : PShape l) (hr : PShape r)
    (h : ledCheck op l r = .ok ()) : PShape (.bin l op r) := by
  obtain ⟨h1, h2⟩ := ledCheck_ok h
  by_cases hop : op = .and ∨ op = .or
  · exact .binBool op hop hl hr (h1.mpr hop) (h2.mpr hop)
  · exact .cmp l op r (hop ∘ .inl) (hop ∘ .inr) (Bool.eq_false_iff.mpr (mt h1.mp hop))
      (Bool.eq_false_iff.mpr (mt h2.mp hop))

theorem collectParen_split : ∀ (ts : List Token) (d : Nat) (acc inner rest : List Token),
    collectParen d ts acc = (inner, rest) →
    ∃ body closing, inner = acc.reverse ++ body ∧ ts = body ++ closing ++ rest ∧
      (closing = [] ∨ closing = [Token.rparen]) := by
  intro ts d acc inner rest
  fun_induction collectParen d ts acc <;> intro h
  case case1 => cases h; exact ⟨[], [], by simp, by simp, .inl rfl⟩
  -- the `)` at depth 1
  case case3 => cases h; exact ⟨[], [.rparen], by simp, by simp, .inr rfl⟩
  -- what a recursive call pushed on `acc` is the head of the body
  all_goals
    obtain ⟨body, closing, h1, h2, h3⟩ := ‹_ → _› h
    exact ⟨_ :: body, closing, by rw [h1, List.reverse_cons, List.append_assoc]; rfl, by rw [h2]; rfl, h3⟩

theorem parseParenIdent_tokens {ts : List Token} {s : Str} {rest : List Token}
    (h : parseParenIdent ts = .ok (s, rest)) : ts = .lparen :: .ident s :: .rparen :: rest := by
  revert h
  fun_cases parseParenIdent ts <;> intro h <;> cases h
  simp_all

theorem parseOfArgs_tokens {ts : List Token} {s : Str} {n : Nat} {rest : List Token}
    (h : parseOfArgs ts = .ok (s, n, rest)) :
    ∃ c : Int, ts = .lparen :: .ident s :: .comma :: .int c :: .rparen :: rest := by
  revert h
  fun_cases parseOfArgs ts <;> intro h <;> cases h
  simp_all

theorem parseParenIdent_ok (ts : List Token) (s : Str) (rest : List Token)
    (_h : parseParenIdent ts = .ok (s, rest)) : True := trivial

theorem Parses.shape {c : Call} {e : Expr} {rest : List Token} (h : Parses c e rest) :
    match (generalizing := false) c with
    | .loop _ left _ => PShape left → PShape e
    | _ => PShape e := by
  induction h with
  | all _ ih => exact ih
  | expr _ _ ihn ihl => exact ihl ihn
  | stop => exact id
  | led _ _ hc _ ihr ihl => exact fun hl => ihl (ledCheck_shape hl ihr hc)
  | paren _ ih => exact ih
  | float => exact .litFloat _
  | ident => exact .ident _
  | int => exact .litInt _
  | not _ hn ih => exact .negate ih hn
  | cast => exact .litCast _ _
  | matchAll | matchOf => exact .matchIdent _ _

theorem parse_shape (ts : List Token) (e : Expr) (h : parse ts = .ok e) : PShape e :=
  (Parses.of_parseAll h).shape

theorem PShape.lit_not_solvable {e : Expr} (h : PShape e) (hs : e.isSolvable = false) :
    (∃ b, e = .float b) ∨ (∃ i, e = .int i) ∨ (∃ f m, e = .cast f m) := by
  cases h <;> simp [Expr.isSolvable] at hs
  · exact Or.inl ⟨_, rfl⟩
  · exact Or.inr (Or.inl ⟨_, rfl⟩)
  · exact Or.inr (Or.inr ⟨_, _, rfl⟩)

theorem PShape.negatable_solvable {e : Expr} (h : PShape e) (hn : negatable e = true) : e.isSolvable = true := by
  cases h <;> simp [negatable] at hn <;> simp [Expr.isSolvable]

/-- Identifiers a parsed condition refers to; complete only on trees of the shape `PShape`: the
    last arm gives `[]` for everything else. -/
def condIdents : Expr → List Str
  | .ident i => [i]
  | .match _ (.ident i) => [i]
  | .negate e => condIdents e
  | .bin l _ r => condIdents l ++ condIdents r
  | _ => []

end Tau
