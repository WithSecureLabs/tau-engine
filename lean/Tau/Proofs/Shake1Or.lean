import Tau.Proofs.Shake1Eqs
import Tau.Proofs.Merge
/-
  The or-arm of `shake_1` for any class of trees.  It is argued once for an arbitrary property `φ`
  that distributes over `Tri.or` (`Dist`): a `Tri` is fixed by "is true" and "is not missing", both
  distribute, so the buckets need only say whether some member has `φ` (`U`).
  All the arm asks of its members is `memberOK`; a class and a relation between results enter only
  in `or_armG`.
-/
namespace Tau

theorem searchOfMatchType'_eq (mt : MatchType) : shake1.searchOfMatchType' mt = searchOfMatchType mt := by
  cases mt <;> rfl

/-- What an or-group's member must be for the batching to be exact: on a string field an empty
    automaton or regex set is `f`, the empty disjunction its bucket would make of it is `m`. -/
def memberOK : Expr → Bool
  | .search (.ac ctx _) _ _ => !ctx.isEmpty
  | .search (.regexSet ps _) _ _ => !ps.isEmpty
  | _ => true

/-- `h`: a needle in its two guises, as `orClassify_view` files one and `buildNeedle_view` rebuilds one. -/
theorem needle_view {s : Search} {ci : Bool} {ctx : List MatchType}
    (h : s = .ac ctx ci ∨ ci = false ∧ ∃ mt, ctx = [mt] ∧ s = shake1.searchOfMatchType' mt) (f : Str) (c : Bool) :
    (memberOK (.search s f c) = true ↔ ctx ≠ []) ∧
      ∀ E d, solveSearch E d s f c = solveSearch E d (.ac ctx ci) f c := by
  rcases h with rfl | ⟨rfl, mt, rfl, rfl⟩
  · exact ⟨by simp [memberOK], fun _ _ => rfl⟩
  · exact ⟨by cases mt <;> simp [memberOK, shake1.searchOfMatchType'],
      fun E d => by rw [searchOfMatchType'_eq, ac_single_false]⟩

theorem pattern_view {s : Search} {ci : Bool} {ps : List Str}
    (h : s = .regexSet ps ci ∨ ∃ p, ps = [p] ∧ s = .regex p ci) (f : Str) (c : Bool) :
    (memberOK (.search s f c) = true ↔ ps ≠ []) ∧
      ∀ E d, solveSearch E d s f c = solveSearch E d (.regexSet ps ci) f c := by
  rcases h with rfl | ⟨p, rfl, rfl⟩
  · exact ⟨by simp [memberOK], fun _ _ => rfl⟩
  · exact ⟨by simp [memberOK], fun E d => (set_single E d p ci f c).symm⟩

theorem buildNeedle_view (f : Str) (c ci : Bool) (ctx : List MatchType) :
    ∃ s, buildNeedle ((f, c, ci), ctx) = .search s f c ∧
      (s = .ac ctx ci ∨ ci = false ∧ ∃ mt, ctx = [mt] ∧ s = shake1.searchOfMatchType' mt) := by
  simp only [buildNeedle]
  split
  · exact ⟨_, rfl, .inr ⟨rfl, _, rfl, rfl⟩⟩
  · exact ⟨_, rfl, .inl rfl⟩

theorem buildPattern_view (f : Str) (c ci : Bool) (ps : List Str) :
    ∃ s, buildPattern ((f, c, ci), ps) = .search s f c ∧ (s = .regexSet ps ci ∨ ∃ p, ps = [p] ∧ s = .regex p ci) := by
  simp only [buildPattern]
  split
  · exact ⟨_, rfl, .inr ⟨_, rfl, rfl⟩⟩
  · exact ⟨_, rfl, .inl rfl⟩

theorem ac_ex (E : RegexEngine) (d : Doc) (φ : Tri → Prop) (hφ : Dist φ) (ctx : List MatchType) (hne : ctx ≠ [])
    (ci : Bool) (f : Str) (c : Bool) :
    φ (solveSearch E d (.ac ctx ci) f c) ↔ ∃ mt ∈ ctx, φ (solveSearch E d (.ac [mt] ci) f c) := by
  rw [acAny_or E d ctx hne ci f c, hφ.map]

theorem set_ex (E : RegexEngine) (d : Doc) (φ : Tri → Prop) (hφ : Dist φ) (ps : List Str) (hne : ps ≠ [])
    (ci : Bool) (f : Str) (c : Bool) :
    φ (solveSearch E d (.regexSet ps ci) f c) ↔ ∃ p ∈ ps, φ (solveSearch E d (.regex p ci) f c) := by
  rw [set_or E d ps ci hne f c, hφ.map]

section
variable (E : RegexEngine) (K : IdentK) (d : Doc) (φ : Tri → Prop)

/-- Some member has `φ`, of a list and of what each bucket stands for.  A needle bucket is read as the
    one-needle automatons `.ac [mt] ci`: so an automaton splits for either case flag (`acAny_or`). -/
def Ex (l : List Expr) : Prop := ∃ x ∈ l, φ (solveG E K d x)
def UN (l : List ((Str × Bool × Bool) × List MatchType)) : Prop :=
  ∃ q ∈ l, ∃ mt ∈ q.2, φ (solveSearch E d (.ac [mt] q.1.2.2) q.1.1 q.1.2.1)
def UP (l : List ((Str × Bool × Bool) × List Str)) : Prop :=
  ∃ q ∈ l, ∃ p ∈ q.2, φ (solveSearch E d (.regex p q.1.2.2) q.1.1 q.1.2.1)
def UNest (l : List (Str × List Expr)) : Prop :=
  ∃ q ∈ l, ∃ b ∈ q.2, φ (solveG E K d (.nested q.1 b))
def U (st : OrSt) : Prop :=
  Ex E K d φ st.any ∨ UN E d φ st.needles ∨ UP E d φ st.patterns ∨ Ex E K d φ st.rest ∨ UNest E K d φ st.nested

theorem Ex_append (a b : List Expr) : Ex E K d φ (a ++ b) ↔ Ex E K d φ a ∨ Ex E K d φ b := by
  simp only [Ex, List.mem_append, or_and_right, exists_or]

theorem Ex_single (x : Expr) : Ex E K d φ [x] ↔ φ (solveG E K d x) := by
  unfold Ex; simp

theorem Ex_cons (x : Expr) (xs : List Expr) : Ex E K d φ (x :: xs) ↔ (φ (solveG E K d x) ∨ Ex E K d φ xs) := by
  rw [← List.singleton_append, Ex_append, Ex_single]

theorem Ex_snoc (l : List Expr) (x : Expr) : Ex E K d φ (l ++ [x]) ↔ (φ (solveG E K d x) ∨ Ex E K d φ l) := by
  rw [Ex_append, Ex_single]; exact or_comm

theorem UN_insert (hφ : Dist φ) (f : Str) (c ci : Bool) (ctx : List MatchType) (hne : ctx ≠ [])
    (l : List ((Str × Bool × Bool) × List MatchType)) :
    UN E d φ (groupInsert keyCmp (f, c, ci) ctx l) ↔
      (φ (solveSearch E d (.ac ctx ci) f c) ∨ UN E d φ l) := by
  unfold UN
  rw [groupInsert_ex keyCmp keyCmp_eq (f, c, ci) ctx l
    (fun k mt => φ (solveSearch E d (.ac [mt] k.2.2) k.1 k.2.1)), ac_ex E d φ hφ ctx hne]

theorem UP_insert (hφ : Dist φ) (f : Str) (c ci : Bool) (ps : List Str) (hne : ps ≠ [])
    (l : List ((Str × Bool × Bool) × List Str)) :
    UP E d φ (groupInsert keyCmp (f, c, ci) ps l) ↔
      (φ (solveSearch E d (.regexSet ps ci) f c) ∨ UP E d φ l) := by
  unfold UP
  rw [groupInsert_ex keyCmp keyCmp_eq (f, c, ci) ps l
    (fun k p => φ (solveSearch E d (.regex p k.2.2) k.1 k.2.1)), set_ex E d φ hφ ps hne]

theorem UNest_insert (f : Str) (b : Expr) (l : List (Str × List Expr)) :
    UNest E K d φ (groupInsert strCmp f [b] l) ↔ (φ (solveG E K d (.nested f b)) ∨ UNest E K d φ l) := by
  unfold UNest
  rw [groupInsert_ex strCmp strCmp_eq f [b] l (fun k x => φ (solveG E K d (.nested k x)))]
  simp only [List.mem_singleton, exists_eq_left]

/-- `U` is a disjunction over the buckets: one bucket gains `p`, the first or a later one. -/
theorem or_gain {a a' p : Prop} (r : Prop) (h : a' ↔ p ∨ a) : a' ∨ r ↔ (a ∨ r) ∨ p := by
  rw [h, or_assoc]; exact or_comm

theorem or_gain_tail {b r r' p : Prop} (h : r' ↔ r ∨ p) : b ∨ r' ↔ (b ∨ r) ∨ p := by
  rw [h, or_assoc]

theorem classify_U (hφ : Dist φ) (st : OrSt) (x : Expr) (hx : memberOK x = true) :
    U E K d φ (orClassify st x) ↔ (U E K d φ st ∨ φ (solveG E K d x)) := by
  rcases orClassify_view st x with h | ⟨f, c, rfl, h⟩ | ⟨f, b, rfl, _, h⟩ | ⟨s, f, c, ci, ctx, rfl, hv, h⟩ |
    ⟨s, f, c, ci, ps, rfl, hv, h⟩ <;> rw [h]
  · exact or_gain_tail (or_gain_tail (or_gain_tail (or_gain _ (Ex_snoc E K d φ st.rest x))))
  · exact or_gain _ (Ex_snoc E K d φ st.any _)
  · exact or_gain_tail (or_gain_tail (or_gain_tail (or_gain_tail ((UNest_insert E K d φ f b st.nested).trans or_comm))))
  · obtain ⟨hne, hs⟩ := needle_view hv f c
    rw [solve_search, hs]
    exact or_gain_tail (or_gain _ (UN_insert E d φ hφ f c ci ctx (hne.mp hx) st.needles))
  · obtain ⟨hne, hs⟩ := pattern_view hv f c
    rw [solve_search, hs]
    exact or_gain_tail (or_gain_tail (or_gain _ (UP_insert E d φ hφ f c ci ps (hne.mp hx) st.patterns)))

end

theorem buildNeedle_class {C : Expr → Bool} (hCs : ∀ s f c, C (.search s f c) = memberOK (.search s f c))
    (q : (Str × Bool × Bool) × List MatchType) (hne : q.2 ≠ []) : C (buildNeedle q) = true := by
  obtain ⟨⟨f, c, ci⟩, ctx⟩ := q
  obtain ⟨s, hs, hv⟩ := buildNeedle_view f c ci ctx
  rw [hs, hCs]; exact (needle_view hv f c).1.mpr hne

theorem buildPattern_class {C : Expr → Bool} (hCs : ∀ s f c, C (.search s f c) = memberOK (.search s f c))
    (q : (Str × Bool × Bool) × List Str) (hne : q.2 ≠ []) : C (buildPattern q) = true := by
  obtain ⟨⟨f, c, ci⟩, ps⟩ := q
  obtain ⟨s, hs, hv⟩ := buildPattern_view f c ci ps
  rw [hs, hCs]; exact (pattern_view hv f c).1.mpr hne

theorem buildNeedle_sem (E : RegexEngine) (K : IdentK) (d : Doc) (φ : Tri → Prop) (hφ : Dist φ)
    (q : (Str × Bool × Bool) × List MatchType) (hne : q.2 ≠ []) :
    φ (solveG E K d (buildNeedle q)) ↔
      ∃ mt ∈ q.2, φ (solveSearch E d (.ac [mt] q.1.2.2) q.1.1 q.1.2.1) := by
  obtain ⟨⟨f, c, ci⟩, ctx⟩ := q
  obtain ⟨s, hs, hv⟩ := buildNeedle_view f c ci ctx
  rw [hs, solve_search, (needle_view hv f c).2, ac_ex E d φ hφ ctx hne]

theorem buildPattern_sem (E : RegexEngine) (K : IdentK) (d : Doc) (φ : Tri → Prop) (hφ : Dist φ)
    (q : (Str × Bool × Bool) × List Str) (hne : q.2 ≠ []) :
    φ (solveG E K d (buildPattern q)) ↔
      ∃ p ∈ q.2, φ (solveSearch E d (.regex p q.1.2.2) q.1.1 q.1.2.1) := by
  obtain ⟨⟨f, c, ci⟩, ps⟩ := q
  obtain ⟨s, hs, hv⟩ := buildPattern_view f c ci ps
  rw [hs, solve_search, (pattern_view hv f c).2, set_ex E d φ hφ ps hne]

/-- `OrB` plus, for `memberOK` members, non-empty automatons and regex sets. -/
structure OrS (L : List Expr) (st : OrSt) : Prop where
  any : ∀ x ∈ st.any, ∃ f c, x = .search .any f c
  rest : ∀ x ∈ st.rest, x ∈ L
  needles : ∀ q ∈ st.needles, q.2 ≠ []
  patterns : ∀ q ∈ st.patterns, q.2 ≠ []
  nestedNe : ∀ q ∈ st.nested, q.2 ≠ []
  nested : ∀ q ∈ st.nested, ∀ b ∈ q.2, Expr.nested q.1 b ∈ L
  count : st.needles = [] → st.patterns = [] → st.nested = [] → st.any.length + st.rest.length = L.length

theorem orClassify_ne (st : OrSt) (x : Expr) (hx : memberOK x = true)
    (hn : ∀ q ∈ st.needles, q.2 ≠ []) (hp : ∀ q ∈ st.patterns, q.2 ≠ []) :
    (∀ q ∈ (orClassify st x).needles, q.2 ≠ []) ∧ (∀ q ∈ (orClassify st x).patterns, q.2 ≠ []) := by
  rcases orClassify_view st x with h | ⟨f, c, rfl, h⟩ | ⟨f, b, rfl, _, h⟩ | ⟨s, f, c, ci, ctx, rfl, hv, h⟩ |
    ⟨s, f, c, ci, ps, rfl, hv, h⟩ <;> rw [h]
  · exact ⟨hn, hp⟩
  · exact ⟨hn, hp⟩
  · exact ⟨hn, hp⟩
  · exact ⟨groupInsert_vals_ne keyCmp _ _ ((needle_view hv f c).1.mp hx) hn, hp⟩
  · exact ⟨hn, groupInsert_vals_ne keyCmp _ _ ((pattern_view hv f c).1.mp hx) hp⟩

theorem orS_classified (L : List Expr) (hL : ∀ x ∈ L, memberOK x = true) :
    OrS L (L.foldl orClassify {}) :=
  have b := orB_classified L
  have n := foldl_inv (P := fun st : OrSt => (∀ q ∈ st.needles, q.2 ≠ []) ∧ (∀ q ∈ st.patterns, q.2 ≠ []))
    (fun st x hx h => orClassify_ne st x hx h.1 h.2) L hL {} ⟨by simp, by simp⟩
  ⟨b.any, b.rest, n.1, n.2, b.nestedNe, fun q hq x hx => (b.nested q hq x hx).1, b.count⟩

section
variable (E : RegexEngine) (K : IdentK) (d : Doc) (φ : Tri → Prop)

theorem fold_U (hφ : Dist φ) (L : List Expr) (hL : ∀ x ∈ L, memberOK x = true) :
    ∀ st, U E K d φ (L.foldl orClassify st) ↔ (U E K d φ st ∨ Ex E K d φ L) := by
  induction L with
  | nil => intro st; simp [Ex]
  | cons x xs ih =>
    intro st
    rw [List.foldl_cons, ih (fun y hy => hL y (List.mem_cons_of_mem _ hy)), classify_U E K d φ hφ st x (hL x List.mem_cons_self),
      Ex_cons, or_assoc]

theorem U_empty : ¬ U E K d φ {} := by
  rintro (⟨_, h, _⟩ | ⟨_, h, _⟩ | ⟨_, h, _⟩ | ⟨_, h, _⟩ | ⟨_, h, _⟩) <;> cases h

theorem Ex_map_iff {α} (l : List α) (g : α → Expr) (R : α → Prop)
    (h : ∀ q ∈ l, (φ (solveG E K d (g q)) ↔ R q)) : Ex E K d φ (l.map g) ↔ ∃ q ∈ l, R q := by
  unfold Ex
  constructor
  · rintro ⟨x, hx, hp⟩
    obtain ⟨q, hq, rfl⟩ := List.mem_map.mp hx
    exact ⟨q, hq, (h q hq).mp hp⟩
  · rintro ⟨q, hq, hr⟩
    exact ⟨g q, List.mem_map.mpr ⟨q, hq, rfl⟩, (h q hq).mpr hr⟩

/-- `hnest` is a hypothesis because the nested bucket's rebuild runs the pass again. -/
theorem orOut_U (hφ : Dist φ) (fuel : Nat) (st : OrSt)
    (hN : ∀ q ∈ st.needles, q.2 ≠ []) (hP : ∀ q ∈ st.patterns, q.2 ≠ [])
    (hnest : ∀ q ∈ st.nested, (φ (solveG E K d (buildNested fuel q)) ↔
      ∃ b ∈ q.2, φ (solveG E K d (.nested q.1 b)))) :
    Ex E K d φ (orOut fuel st) ↔ U E K d φ st := by
  have h1 : Ex E K d φ (orOut fuel st) ↔
      (Ex E K d φ st.any ∨ Ex E K d φ (st.needles.map buildNeedle) ∨
       Ex E K d φ (st.patterns.map buildPattern) ∨ Ex E K d φ st.rest ∨
       Ex E K d φ (st.nested.map (buildNested fuel))) := by
    simp only [Ex, mem_orOut, or_and_right, exists_or]
  rw [h1, U,
    Ex_map_iff E K d φ _ _ _ (fun q hq => buildNeedle_sem E K d φ hφ q (hN q hq)),
    Ex_map_iff E K d φ _ _ _ (fun q hq => buildPattern_sem E K d φ hφ q (hP q hq)),
    Ex_map_iff E K d φ _ _ _ hnest]
  -- what is left are `UN`, `UP`, `UNest` unfolded
  rfl

theorem orOut_Ex (hφ : Dist φ) (fuel : Nat) (L : List Expr) (hL : ∀ x ∈ L, memberOK x = true)
    (hnest : ∀ q ∈ (L.foldl orClassify {}).nested, (φ (solveG E K d (buildNested fuel q)) ↔
      ∃ b ∈ q.2, φ (solveG E K d (.nested q.1 b)))) :
    Ex E K d φ (orOut fuel (L.foldl orClassify {})) ↔ Ex E K d φ L := by
  have hS := orS_classified L hL
  rw [orOut_U E K d φ hφ fuel _ hS.needles hS.patterns hnest, fold_U E K d φ hφ L hL {}]
  exact or_iff_right (U_empty E K d φ)

theorem memberOK_of_class {C : Expr → Bool} (hCs : ∀ s f c, C (.search s f c) = memberOK (.search s f c))
    (x : Expr) (h : C x = true) : memberOK x = true := by
  fun_cases memberOK x
  · rwa [hCs] at h
  · rwa [hCs] at h
  · rfl

theorem orOut_class {C : Expr → Bool} (hCs : ∀ s f c, C (.search s f c) = memberOK (.search s f c))
    (fuel : Nat) (L : List Expr) (hL : ∀ x ∈ L, C x = true)
    (hnest : ∀ q ∈ (L.foldl orClassify {}).nested, C (buildNested fuel q) = true) :
    ∀ x ∈ orOut fuel (L.foldl orClassify {}), C x = true := by
  have hS := orS_classified L fun x hx => memberOK_of_class hCs x (hL x hx)
  intro x hx
  rcases (mem_orOut fuel _ x).mp hx with h | h | h | h | h
  · obtain ⟨f, c, rfl⟩ := hS.any x h; rw [hCs]; rfl
  · obtain ⟨q, hq, rfl⟩ := List.mem_map.mp h
    exact buildNeedle_class hCs q (hS.needles q hq)
  · obtain ⟨q, hq, rfl⟩ := List.mem_map.mp h
    exact buildPattern_class hCs q (hS.patterns q hq)
  · exact hL x (hS.rest x h)
  · obtain ⟨q, hq, rfl⟩ := List.mem_map.mp h
    exact hnest q hq

end

theorem out_single (fuel : Nat) (L : List Expr) (st : OrSt) (hS : OrS L st) (z : Expr)
    (hout : orOut fuel st = [z]) (h1 : ∀ s f c, z ≠ .search s f c) (h2 : ∀ f b, z ≠ .nested f b) :
    L = [z] :=
  orOut_single fuel L st hS.any hS.rest hS.count z hout h1 h2

/-- The or-arm for any class `C` and relation `R` between results; `hout` is the class's own bucket argument. -/
theorem or_armG {C : Expr → Bool} {R : Tri → Tri → Prop} (E : RegexEngine) (K : IdentK)
    (hC : ∀ es, C (.group .or es) = true ↔ es ≠ [] ∧ ∀ x ∈ es, C x = true)
    (Rtrans : ∀ {a b c}, R a b → R b c → R a c)
    (Ror : ∀ d (es : List Expr) (g : Expr → Expr), (∀ y ∈ es, R (solveG E K d (g y)) (solveG E K d y)) →
      R (solveG E K d (.group .or (es.map g))) (solveG E K d (.group .or es)))
    (n : Nat) (ih : ∀ e, C e = true → C (shake1 n e) = true ∧ ∀ d, R (solveG E K d (shake1 n e)) (solveG E K d e))
    (hout : ∀ L : List Expr, (∀ x ∈ L, C x = true) → (∀ x ∈ orOut n (L.foldl orClassify {}), C x = true) ∧
      ∀ d, R (solveG E K d (.group .or (orOut n (L.foldl orClassify {})))) (solveG E K d (.group .or L)))
    (es : List Expr) (h : C (.group .or es) = true) :
    C (shake1 (n + 1) (.group .or es)) = true ∧
      ∀ d, R (solveG E K d (shake1 (n + 1) (.group .or es))) (solveG E K d (.group .or es)) := by
  obtain ⟨hne, hmem⟩ := (hC es).mp h
  have hLok : ∀ x ∈ es.map (shake1 n), C x = true :=
    List.forall_mem_map.mpr fun y hy => (ih y (hmem y hy)).1
  obtain ⟨hout_ok, hval⟩ := hout _ hLok
  have hout_ne := orOut_ne_nil n (by simpa using hne) (orB_classified (es.map (shake1 n)))
  have hv : ∀ d, R (solveG E K d (.group .or (orOut n ((es.map (shake1 n)).foldl orClassify {}))))
      (solveG E K d (.group .or es)) :=
    fun d => Rtrans (hval d) (Ror d es (shake1 n) fun y hy => (ih y (hmem y hy)).2 d)
  generalize hst : (es.map (shake1 n)).foldl orClassify {} = st at hout_ok hv hout_ne
  have hgo : C (.group .or (orOut n st)) = true := (hC _).mpr ⟨hout_ne, hout_ok⟩
  rw [shake1_or, hst]
  split
  · exact ⟨(ih _ hgo).1, fun d => Rtrans ((ih _ hgo).2 d) (hv d)⟩
  · exact ⟨unwrapGroup_ind .or _ (C · = true) hgo hout_ok,
      fun d => by rw [unwrapGroup_solve E K d .or _ (Or.inr rfl)]; exact hv d⟩

end Tau
