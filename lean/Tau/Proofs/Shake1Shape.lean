import Tau.Proofs.Shake1Eqs
import Tau.Proofs.Shake0
/-
  What `shake_1` does to the top of a tree, for every tree (no class assumed): whether the result
  is an all()/of() node up to one-member groups, whether it has a nested mapping on top, and what
  it leaves standing under an all()/of() and under a nested mapping.
-/
namespace Tau

mutual
/-- A nested mapping on top, through groups of any size: unwrapping and regrouping can bring it up. -/
def hasTopNested : Expr → Bool
  | .nested _ _ => true
  | .group _ es => hasTopNestedL es
  | _ => false
def hasTopNestedL : List Expr → Bool
  | [] => false
  | e :: es => hasTopNested e || hasTopNestedL es
end

theorem hasTopNestedL_iff (l : List Expr) : hasTopNestedL l = true ↔ ∃ x ∈ l, hasTopNested x = true :=
  anyL_iff rfl (fun _ _ => rfl) l

theorem hasTopNestedL_eq_false (l : List Expr) :
    hasTopNestedL l = false ↔ ∀ x ∈ l, hasTopNested x = false :=
  anyL_eq_false rfl (fun _ _ => rfl) l

theorem isNestedE_of_not_top (x : Expr) (h : hasTopNested x = false) : isNestedE x = false := by
  fun_cases isNestedE x
  · cases h
  · rfl

def Shape (fuel : Nat) (e : Expr) : Prop :=
  (mayBecomeMatch (shake1 fuel e) = true → mayBecomeMatch e = true) ∧
  (hasTopNested (shake1 fuel e) = true → hasTopNested e = true)

theorem shape_map (n : Nat) (ih : ∀ e, Shape n e) (op : BoolSym) (es : List Expr) :
    (∀ z, es.map (shake1 n) = [z] → mayBecomeMatch z = true → mayBecomeMatch (.group op es) = true) ∧
    (∀ w ∈ es.map (shake1 n), hasTopNested w = true → hasTopNested (.group op es) = true) := by
  constructor
  · intro z hz hzm
    obtain ⟨y, hes, hy⟩ := List.map_eq_singleton_iff.mp hz
    rw [← hy] at hzm
    rw [hes]; simpa [mayBecomeMatch] using (ih y).1 hzm
  · intro w hw hwt
    obtain ⟨y, hy, rfl⟩ := List.mem_map.mp hw
    simp only [hasTopNested]
    exact (hasTopNestedL_iff es).mpr ⟨y, hy, (ih y).2 hwt⟩

theorem shape_group (op : BoolSym) (out : List Expr) (e : Expr)
    (hlone : ∀ z, out = [z] → mayBecomeMatch z = true → mayBecomeMatch e = true)
    (htop : ∀ z ∈ out, hasTopNested z = true → hasTopNested e = true) :
    (mayBecomeMatch (.group op out) = true → mayBecomeMatch e = true) ∧
      (hasTopNested (.group op out) = true → hasTopNested e = true) := by
  refine ⟨fun hm => ?_, fun hm => ?_⟩
  · obtain ⟨z, hz, hzm⟩ := mbm_group2 _ _ hm; exact hlone z hz hzm
  · obtain ⟨z, hz, hzt⟩ := (hasTopNestedL_iff _).mp (by simpa [hasTopNested] using hm); exact htop z hz hzt

theorem shape_armEnd (n : Nat) (ih : ∀ e, Shape n e) (op : BoolSym) (out : List Expr) (len : Nat) {e : Expr}
    (hlone : ∀ z, out = [z] → mayBecomeMatch z = true → mayBecomeMatch e = true)
    (htop : ∀ z ∈ out, hasTopNested z = true → hasTopNested e = true) :
    let r := if out.length != len then shake1 n (.group op out) else unwrapGroup op out
    (mayBecomeMatch r = true → mayBecomeMatch e = true) ∧ (hasTopNested r = true → hasTopNested e = true) := by
  have hg := shape_group op out e hlone htop
  dsimp only
  split
  · exact ⟨fun hm => hg.1 ((ih _).1 hm), fun hm => hg.2 ((ih _).2 hm)⟩
  · exact ⟨fun hm => let ⟨z, hz, hzm⟩ := mbm_unwrapGroup op out hm; hlone z hz hzm,
      unwrapGroup_ind op out (fun r => hasTopNested r = true → hasTopNested e = true) hg.2 htop⟩

theorem shape_or (n : Nat) (ih : ∀ e, Shape n e) (es : List Expr) : Shape (n + 1) (.group .or es) := by
  obtain ⟨blone, btop⟩ := shape_map n ih .or es
  have hS : OrB (es.map (shake1 n)) ((es.map (shake1 n)).foldl orClassify {}) := orB_classified _
  generalize hst : (es.map (shake1 n)).foldl orClassify {} = st at hS
  have hlone : ∀ z, orOut n st = [z] → mayBecomeMatch z = true → mayBecomeMatch (.group .or es) = true := by
    intro z hz hzm
    exact blone z (orOut_single n _ st hS.any hS.rest hS.count z hz
      (by intro s f c hh; rw [hh] at hzm; cases hzm)
      (by intro f b hh; rw [hh] at hzm; cases hzm)) hzm
  have htop : ∀ z ∈ orOut n st, hasTopNested z = true → hasTopNested (.group .or es) = true := by
    intro z hz hzt
    rcases orOut_cases n st z hz with h' | ⟨s, f, c, rfl⟩ | h' | ⟨q, hq, rfl⟩
    · obtain ⟨f, c, rfl⟩ := hS.any z h'; cases hzt
    · cases hzt
    · exact btop z (hS.rest z h') hzt
    · -- a merged block stands for the nested members it was collected from
      obtain ⟨b, hb⟩ := List.exists_mem_of_ne_nil _ (hS.nestedNe q hq)
      exact btop _ (hS.nested q hq b hb).1 rfl
  unfold Shape
  rw [shake1_or, hst]
  exact shape_armEnd n ih .or (orOut n st) es.length hlone htop

theorem shape_and (n : Nat) (ih : ∀ e, Shape n e) (es : List Expr) : Shape (n + 1) (.group .and es) := by
  obtain ⟨blone, btop⟩ := shape_map n ih .and es
  generalize hL : es.map (shake1 n) = L at blone btop
  have hlone : ∀ z, andOut n L = [z] → mayBecomeMatch z = true → mayBecomeMatch (.group .and es) = true := by
    intro z hz hzm
    cases hN : L.foldl andNestedStep [] with
    | nil => rw [andOut_eq_self n L ((andFold_eq_nil L []).mp hN).2] at hz; exact blone z hz hzm
    | cons q qs =>
      -- a lone member with a merged block present is that block, which is no all()/of()
      have hm := (mem_andOut n L _).mpr (Or.inr ⟨q, by rw [hN]; exact List.mem_cons_self, rfl⟩)
      obtain ⟨f, b, hb⟩ := buildAndNested_nested n q
      rw [hz, List.mem_singleton, hb] at hm
      rw [← hm] at hzm; cases hzm
  have htop : ∀ z ∈ andOut n L, hasTopNested z = true → hasTopNested (.group .and es) = true := by
    intro z hz hzt
    rcases (mem_andOut n L z).mp hz with ⟨hz, _⟩ | ⟨q, hq, rfl⟩
    · exact btop z hz hzt
    · obtain ⟨y, hyL, hyn⟩ := (andFold_ne_nil L).mp (List.ne_nil_of_mem hq)
      obtain ⟨f, b, rfl⟩ := (isNestedE_iff y).mp hyn
      exact btop _ hyL rfl
  unfold Shape
  rw [shake1_and, hL]
  exact shape_armEnd n ih .and (andOut n L) es.length hlone htop

theorem shake1_shape : ∀ fuel e, Shape fuel e := by
  intro fuel
  induction fuel with
  | zero => intro e; exact ⟨id, id⟩
  | succ n ih =>
    intro e
    cases e with
    | group op es =>
      cases op with
      | and => exact shape_and n ih es
      | or => exact shape_or n ih es
      | _ =>
        obtain ⟨blone, btop⟩ := shape_map n ih _ es
        exact shape_group _ (es.map (shake1 n)) _ blone btop
    | «match» k x => rw [Shape, shake1_match]; exact ⟨fun _ => rfl, nofun⟩
    | bin l op r => exact ⟨nofun, nofun⟩
    | negate x => exact ⟨nofun, nofun⟩
    | nested f x => exact ⟨nofun, fun _ => rfl⟩
    | _ => exact ⟨id, id⟩

theorem hasTopNested_shake1 (n : Nat) (e : Expr) (h : hasTopNested e = false) :
    hasTopNested (shake1 n e) = false :=
  Bool.eq_false_iff.mpr fun h' => Bool.eq_false_iff.mp h ((shake1_shape n e).2 h')

theorem hasTopNestedL_shake1 (n : Nat) (es : List Expr) (h : hasTopNestedL es = false) :
    hasTopNestedL (es.map (shake1 n)) = false :=
  (hasTopNestedL_eq_false _).mpr (List.forall_mem_map.mpr fun y hy =>
    hasTopNested_shake1 n y ((hasTopNestedL_eq_false es).mp h y hy))

theorem shake1_leaf (fuel : Nat) (e : Expr) (h : isLeafE e = true) : shake1 fuel e = e := by
  cases e with
  | bool | cast | field | float | int | null => cases fuel <;> rfl
  | _ => cases h

/-- A comparison of two leaves is left as it is. -/
theorem shake1_cmp (fuel : Nat) (l : Expr) (op : BoolSym) (r : Expr) (hl : isLeafE l = true) (hr : isLeafE r = true) :
    shake1 fuel (.bin l op r) = .bin l op r := by
  cases fuel with
  | zero => rfl
  | succ n => rw [shake1_bin, shake1_leaf n l hl, shake1_leaf n r hr]

theorem shake1_match_form (fuel : Nat) (k : MatchK) (y : Expr) :
    ∃ y', shake1 fuel (.match k y) = .match k y' ∧
      nestedSpecial (.match k y') = nestedSpecial (.match k y) := by
  cases fuel with
  | zero => exact ⟨y, rfl, rfl⟩
  | succ n =>
    refine ⟨matchArg (shake1 n) y, shake1_match n k y, ?_⟩
    -- only all() looks at its operand, and only at the head, which the pass keeps
    cases k with
    | of c => rfl
    | all =>
      cases y with
      | group op es => cases op <;> rfl
      | «match» k2 x =>
        cases n with
        | zero => rfl
        | succ m => simp only [matchArg, shake1_match]; rfl
      | _ => cases n <;> rfl

theorem nestedBody_ok_of (g : Expr → Expr) (x : Expr) (h1 : nestedChildOK x = true) (h2 : nestedSpecial x = false)
    (hmbm : mayBecomeMatch (g x) = true → mayBecomeMatch x = true)
    (hform : ∀ k y, x = .match k y →
      ∃ y', g x = .match k y' ∧ nestedSpecial (.match k y') = nestedSpecial (.match k y)) :
    nestedSpecial (g x) = false ∧ nestedChildOK (g x) = true := by
  -- the result cannot become an all()/of(), or `x` was one and the pass keeps its head
  cases hm : mayBecomeMatch (g x) with
  | false => exact notMBM_ok _ hm
  | true =>
    obtain ⟨k, y, rfl⟩ := match_of_mbm_childOK h1 (hmbm hm)
    obtain ⟨y', he, hsp⟩ := hform k y rfl
    rw [he]; exact ⟨hsp.trans h2, rfl⟩

theorem nestedBody_ok (fuel : Nat) (x : Expr) (h1 : nestedChildOK x = true) (h2 : nestedSpecial x = false) :
    nestedSpecial (shake1 fuel x) = false ∧ nestedChildOK (shake1 fuel x) = true :=
  nestedBody_ok_of (shake1 fuel) x h1 h2 (shake1_shape fuel x).1 fun k y e => e ▸ shake1_match_form fuel k y

end Tau
