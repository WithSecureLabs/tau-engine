import Tau.Proofs.TokRT
import Tau.Proofs.PrattPP
/-
  Any amount of blanks between (and in front of) the tokens of a condition: the tokeniser reads
  the same token list.  The plain rendering is the case of no extra blanks (`renderG_nogaps`).
-/
namespace Tau

def sp (k : Nat) : Str := List.replicate k ' '

theorem sp_succ (k : Nat) : sp (k + 1) = ' ' :: sp k := rfl

/-- Whose text ends in a blank; the others must touch what follows. -/
def endsBlank : Token → Bool
  | .matchAll | .matchOf | .modifier _ | .float _ => false
  | _ => true

/-- `gs` gives, token by token (keywords that touch their parenthesis take none), how many blanks
    follow beyond the one that ends the token. -/
def renderG (num : Int → Str) : List Token → List Nat → Str
  | [], _ => []
  | t :: ts, gs =>
    if endsBlank t then tokText num t ++ (sp (gs.headD 0) ++ renderG num ts gs.tail)
    else tokText num t ++ renderG num ts gs

theorem renderG_nogaps (num : Int → Str) : ∀ (ts : List Token), renderG num ts [] = render num ts
  | [] => rfl
  | t :: ts => by
    unfold renderG render
    split <;> simp [sp, renderG_nogaps num ts]

theorem tokenise_spaces (k : Nat) (s : Str) : tokenise (sp k ++ s) = tokenise s := by
  induction k with
  | zero => rfl
  | succ k ih => rw [sp_succ, List.cons_append, tokenise_skip (tokStep_space _), ih]

theorem tokenise_renderG_aux (num : Int → Str) (ts : List Token) (h : Renderable num ts) :
    ∀ gs, tokenise (renderG num ts gs) = .ok ts := by
  have blank : ∀ {t : Token} {ts : List Token} {c : Char} {cs : Str}, endsBlank t = true →
      tokText num t = c :: cs ++ [' '] → (∀ R, tokStep c (cs ++ ' ' :: R) = .ok (some t, ' ' :: R)) →
      (∀ gs, tokenise (renderG num ts gs) = .ok ts) →
      ∀ gs, tokenise (renderG num (t :: ts) gs) = .ok (t :: ts) := by
    intro t ts c cs hb htx hstep ih gs
    have : renderG num (t :: ts) gs = c :: (cs ++ ' ' :: (sp (gs.headD 0) ++ renderG num ts gs.tail)) := by
      simp [renderG, hb, htx]
    rw [this, tokenise_tok (hstep _), tokenise_skip (tokStep_space _), tokenise_spaces, ih]; rfl
  have tight : ∀ {t : Token} {ts : List Token}, endsBlank t = false →
      (∀ R, ∃ c cs, tokText num t = c :: cs ∧ tokStep c (cs ++ '(' :: R) = .ok (some t, '(' :: R)) →
      (∀ gs, tokenise (renderG num (.lparen :: ts) gs) = .ok (.lparen :: ts)) →
      ∀ gs, tokenise (renderG num (t :: .lparen :: ts) gs) = .ok (t :: .lparen :: ts) := by
    intro t ts hb hstep ih gs
    have e2 : renderG num (.lparen :: ts) gs = '(' :: (' ' :: (sp (gs.headD 0) ++ renderG num ts gs.tail)) := by
      simp [renderG, endsBlank, tokText]
    obtain ⟨c, cs, htx, hstep⟩ := hstep (' ' :: (sp (gs.headD 0) ++ renderG num ts gs.tail))
    have : renderG num (t :: .lparen :: ts) gs = c :: (cs ++ renderG num (.lparen :: ts) gs) := by
      rw [renderG]; simp [hb, htx]
    rw [this, e2, tokenise_tok hstep, ← e2, ih]; rfl
  induction h with
  | nil => intro gs; rfl
  | ident s ts hg _ ih =>
    have ⟨⟨c, cs, he, _⟩, _⟩ := hg
    subst he
    exact blank rfl rfl (fun R => tokStep_ident c cs R hg) ih
  | op o ts _ ih =>
    cases o
    case and => exact blank (cs := ['n', 'd']) rfl rfl tokStep_and ih
    case or => exact blank (cs := ['r']) rfl rfl tokStep_or ih
    case eq => exact blank (c := '=') (cs := ['=']) rfl rfl (fun _ => tokStep_eq _) ih
    case gt => exact blank (cs := []) rfl rfl tokStep_gt ih
    case ge => exact blank (c := '>') (cs := ['=']) rfl rfl (fun _ => tokStep_ge _) ih
    case lt => exact blank (cs := []) rfl rfl tokStep_lt ih
    case le => exact blank (c := '<') (cs := ['=']) rfl rfl (fun _ => tokStep_le _) ih
  | miscNot ts _ ih => exact blank (cs := ['o', 't']) rfl rfl tokStep_not ih
  | lparen ts _ ih => exact blank (c := '(') (cs := []) rfl rfl (fun _ => tokStep_lparen _) ih
  | rparen ts _ ih => exact blank (c := ')') (cs := []) rfl rfl (fun _ => tokStep_rparen _) ih
  | comma ts _ ih => exact blank (c := ',') (cs := []) rfl rfl (fun _ => tokStep_comma _) ih
  | int i ts hn _ ih =>
    have ⟨⟨d, ds, hd, _⟩, _⟩ := hn
    exact blank rfl (by simp [tokText, hd]) (fun R => tokStep_int num i hn d ds R hd) ih
  | matchAll ts _ ih => exact tight rfl (fun R => ⟨'a', ['l', 'l'], rfl, tokStep_all R⟩) ih
  | matchOf ts _ ih => exact tight rfl (fun R => ⟨'o', ['f'], rfl, tokStep_of R⟩) ih
  | modifier m ts _ ih => exact tight rfl (tokStep_mod m) ih

theorem tokenise_renderG (num : Int → Str) (ts : List Token) (h : Renderable num ts) (k : Nat) (gs : List Nat) :
    tokenise (sp k ++ renderG num ts gs) = .ok ts := by
  rw [tokenise_spaces, tokenise_renderG_aux num ts h]

theorem tokenise_render (num : Int → Str) (ts : List Token) (h : Renderable num ts) :
    tokenise (render num ts) = .ok ts := by
  rw [← renderG_nogaps, tokenise_renderG_aux num ts h]

theorem Renderable.paren {num : Int → Str} {a : List Token} (ha : Renderable num a) :
    Renderable num (paren a) := by
  unfold Tau.paren
  exact .lparen _ (ha.append (.rparen _ .nil))

/-- No float literal: its text is the float printer's business. -/
def CmpArg.good (num : Int → Str) : CmpArg → Prop
  | .cast f _ => goodName f
  | .int i => numOK num i
  | .flt _ => False

def Cond.good (num : Int → Str) : Cond → Prop
  | .id i => goodName i
  | .cmp l _ r _ => l.good num ∧ r.good num
  | .all i => goodName i
  | .of i n => goodName i ∧ numOK num n
  | .not c => c.good num
  | .and a b => a.good num ∧ b.good num
  | .or a b => a.good num ∧ b.good num
  | .par c => c.good num

theorem CmpArg.pp_renderable (num : Int → Str) (a : CmpArg) (h : a.good num) : Renderable num a.pp := by
  cases a with
  | cast f m => exact .modifier m _ (.lparen _ (.ident f _ h (.rparen _ .nil)))
  | int i => exact .int i _ h .nil
  | flt b => exact h.elim

theorem Cond.pp_renderable (num : Int → Str) (c : Cond) (h : c.good num) : Renderable num c.pp := by
  induction c with
  | id i => exact .ident i _ h .nil
  | cmp l op r ok =>
    simp only [Cond.pp]
    exact (CmpArg.pp_renderable num l h.1).append (.op op _ (CmpArg.pp_renderable num r h.2))
  | all i => exact .matchAll _ (.lparen _ (.ident i _ h (.rparen _ .nil)))
  | of i n => exact .matchOf _ (.lparen _ (.ident i _ h.1 (.comma _ (.int n _ h.2 (.rparen _ .nil)))))
  | not c ih => exact .miscNot _ (operand_closed _ (ih h) (ih h).paren)
  | and a b iha ihb =>
    exact (operand_closed _ (iha h.1) (iha h.1).paren).append
      (.op .and _ (operand_closed _ (ihb h.2) (ihb h.2).paren))
  | or a b iha ihb =>
    exact (operand_closed _ (iha h.1) (iha h.1).paren).append
      (.op .or _ (operand_closed _ (ihb h.2) (ihb h.2).paren))
  | par c ih => exact (ih h).paren

theorem cond_gaps_round_trip (num : Int → Str) (c : Cond) (h : c.good num) (k : Nat) (gs : List Nat) :
    (match tokenise (sp k ++ renderG num c.pp gs) with
     | .ok ts => parse ts
     | .error e => .error e) = .ok c.toExpr := by
  rw [tokenise_renderG num c.pp (Cond.pp_renderable num c h) k gs]
  exact parse_pp c

theorem cond_text_round_trip (num : Int → Str) (c : Cond) (h : c.good num) :
    (match tokenise (render num c.pp) with
     | .ok ts => parse ts
     | .error e => .error e) = .ok c.toExpr := by
  rw [← renderG_nogaps]
  exact cond_gaps_round_trip num c h 0 []

/-! Nothing uses the four lemmas below: they state the same steps on the loop with its fuel. -/

theorem tokLoop_space (fuel : Nat) (rest : Str) (acc : List Token) :
    tokLoop (fuel + 1) (' ' :: rest) acc = tokLoop fuel rest acc := by
  simp only [tokLoop, tokStep_space]

theorem tokLoop_step (fuel : Nat) (c : Char) (cs rest : Str) (t : Token) (acc : List Token)
    (h : tokStep c cs = .ok (some t, rest)) :
    tokLoop (fuel + 1) (c :: cs) acc = tokLoop fuel rest (t :: acc) := by
  simp only [tokLoop, h]

theorem tokLoop_spaces : ∀ (k fuel : Nat) (rest : Str) (acc : List Token),
    tokLoop (fuel + k) (sp k ++ rest) acc = tokLoop fuel rest acc
  | 0, fuel, rest, acc => by simp [sp]
  | k + 1, fuel, rest, acc => by
    rw [sp_succ, List.cons_append, ← Nat.add_assoc, tokLoop_space, tokLoop_spaces k]

theorem gap_step (f g : Nat) (c : Char) (cs R : Str) (t : Token) (acc : List Token)
    (h : tokStep c cs = .ok (some t, ' ' :: (sp g ++ R))) :
    tokLoop (f + g + 1 + 1) (c :: cs) acc = tokLoop f R (t :: acc) := by
  rw [tokLoop_step (f + g + 1) c cs _ t acc h, tokLoop_space, tokLoop_spaces]

end Tau
