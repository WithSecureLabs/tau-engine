import Tau.Proofs.PrattTotal
import Tau.Proofs.Tokeniser
import Tau.Proofs.Rule
import Tau.Proofs.MappingBuilt
/-
  No layer of the loader can produce the `panic` value: mapping keys, every YAML shape under
  `parse_identifier`, and the detection block as a whole.
-/
namespace Tau

theorem parseKey_np (k : Yaml) (b : Bool) : NP (parseKey k b) := by
  intro site
  fun_cases parseKey k b
  -- two arms hand on an error from below; every other exit is `.ok` or `parseInvalidIdent`
  case case1 he => exact fun h => tokenise_np _ site (Except.error.inj h ▸ he)
  case case2 he => exact fun h => parse_no_panic _ site (Except.error.inj h ▸ he)
  all_goals exact nofun

theorem Post.np {α : Type} {P : α → Prop} {r : Except Err α} (h : Post MapErr P r) : NP r := by
  intro site hr
  cases h.error hr with
  | key hk => exact parseKey_np _ _ site hk

-- `L`, the leaf predicate of the `Built` grammar, plays no part here.
theorem pair_np (E : RegexEngine) (ic : Bool) : ∀ (p : Yaml × Yaml), NP (parsePair E ic p) :=
  fun p => (pair_post E ic (L := fun _ => True) (fun _ _ => trivial) p).np

theorem val_np (E : RegexEngine) (ic : Bool) (e : Expr) (f : Str) (misc : Option ModSym) :
    ∀ (v : Yaml), NP (parseVal E ic e f misc v) :=
  fun v => (val_post E ic (L := fun _ => True) (fun _ _ => trivial) e f misc v (fun _ => trivial) trivial).np

theorem members_np (E : RegexEngine) (ic : Bool) (f : Str) (misc : Option ModSym) (lhs : Expr) :
    ∀ (vs : List Yaml) (st : SeqSt), NP (parseMembers E ic f misc lhs vs st) :=
  fun vs st => (members_post E ic (L := fun _ => True) (fun _ _ => trivial) f misc lhs trivial
    (P := fun _ => True) (fun _ _ => trivial) vs st (fun _ _ => trivial)).np

theorem parseIdentifier_np (E : RegexEngine) (ic : Bool) (y : Yaml) : NP (parseIdentifier E ic y) :=
  (parseIdentifier_post E ic (L := fun _ => True) (fun _ _ => trivial) y).np

/-- Not by the layers above: the loader replaces every error from below by one of its own. -/
theorem loadDetection_np (E : RegexEngine) (ic : Bool) (entries : List (Str × Yaml)) :
    NP (loadDetection E ic entries) := fun _ h => by
  obtain ⟨_, hs⟩ := loadDetection_error h
  cases hs

end Tau
