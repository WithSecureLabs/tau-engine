import Tau.Proofs.SafeOpt
import Tau.Proofs.Shake1Eqs
/-
  `shake_1` keeps a tree inside `safe`; with `shake0_safe`: `shake` does.
-/
namespace Tau

section
variable (defd : Str → Bool)

/-- The invariant of the and-arm's fold (`andNestedStep`): every collected body is safe. -/
def BodiesSafe (l : List (Str × List Expr)) : Prop := ∀ p ∈ l, ∀ x ∈ p.2, safe defd x = true

theorem bodiesSafe_insertL (f : Str) (bs : List Expr) (l : List (Str × List Expr))
    (hb : ∀ b ∈ bs, safe defd b = true)
    (hl : BodiesSafe defd l) : BodiesSafe defd (groupInsert strCmp f bs l) :=
  (groupInsert_all strCmp strCmp_eq f bs l fun _ m => safe defd m = true).mpr ⟨hb, hl⟩

theorem andStep_safe (acc : List (Str × List Expr)) (x : Expr) (hx : safe defd x = true)
    (h : BodiesSafe defd acc) : BodiesSafe defd (andNestedStep acc x) := by
  rcases andNestedStep_view x with ⟨_, hs⟩ | ⟨f, b, v, rfl, hs, hv⟩ <;> rw [hs]
  · exact h
  · -- `safe` looks through `nested`, and through all() at the members of the group
    rcases hv with ⟨rfl, _⟩ | ⟨rfl, _⟩
    · exact bodiesSafe_insertL defd f [b] acc (List.forall_mem_singleton.mpr hx) h
    · exact bodiesSafe_insertL defd f v acc ((safeL_iff defd v).mp hx) h

/-- What the or-arm needs of the buckets that hold trees. -/
structure OrInv (st : OrSt) : Prop where
  any : ∀ x ∈ st.any, safe defd x = true
  rest : ∀ x ∈ st.rest, safe defd x = true
  nested : BodiesSafe defd st.nested

/-- Where the buckets' trees come from is known whatever the members are (`OrB`). -/
theorem orInv_classified (L : List Expr) (h : ∀ x ∈ L, safe defd x = true) : OrInv defd (L.foldl orClassify {}) :=
  have hB := orB_classified L
  ⟨fun x hx => by obtain ⟨f, c, rfl⟩ := hB.any x hx; rfl, fun x hx => h x (hB.rest x hx),
    fun q hq b hb => h (.nested q.1 b) (hB.nested q hq b hb).1⟩

end

theorem safeL_of_mem (defd : Str → Bool) (l : List Expr) (h : ∀ x ∈ l, safe defd x = true) :
    safeL defd l = true := (safeL_iff defd l).mpr h

theorem safe_matchArg {defd : Str → Bool} {g : Expr → Expr}
    (hg : ∀ e, safe defd e = true → safe defd (g e) = true) (k : MatchK) (x : Expr)
    (h : safe defd (.match k x) = true) : safe defd (.match k (matchArg g x)) = true := by
  unfold matchArg
  split
  · exact safeL_map (g := g) h fun e _ => hg e
  · exact safe_match_of_safe defd k _ (hg _ (safe_of_match h ‹_›))

theorem shake1_safe (defd : Str → Bool) : ∀ (fuel : Nat) (e : Expr),
    safe defd e = true → safe defd (shake1 fuel e) = true := by
  intro fuel
  induction fuel with
  | zero => intro e h; exact h
  | succ n ih =>
    have keyG : ∀ (op : BoolSym) (len : Nat) (out : List Expr), op = .and ∨ op = .or →
        (∀ x ∈ out, safe defd x = true) →
        safe defd (if out.length != len then shake1 n (.group op out) else unwrapGroup op out) = true := by
      intro op len out hop hout
      split
      · exact ih _ (safe_group_iff.mpr ⟨hop, hout⟩)
      · exact unwrapGroup_safe defd op out hop hout
    intro e h
    cases e with
    | group op es =>
      obtain ⟨hop, hes⟩ := safe_group_iff.mp h
      have hmem : ∀ x ∈ es.map (shake1 n), safe defd x = true :=
        List.forall_mem_map.mpr fun y hy => ih y (hes y hy)
      -- a field's collected members `xs` become one nested node around `x`, or around `g xs`
      have hbuild : ∀ (g : List Expr → Expr) (f : Str) (xs : List Expr), (∀ x ∈ xs, safe defd x = true) →
          safe defd (g xs) = true →
          safe defd (match xs with
            | [x] => Expr.nested f (shake1 n x)
            | _ => Expr.nested f (shake1 n (g xs))) = true := by
        intro g f xs hb hg
        split
        · exact ih _ (hb _ List.mem_cons_self)
        · exact ih _ hg
      rcases hop with rfl | rfl
      · rw [shake1_and]
        apply keyG .and _ _ (.inl rfl)
        intro x hx
        rcases List.mem_append.mp hx with hx | hx
        · exact hmem x (List.mem_filter.mp hx).1
        · obtain ⟨⟨f, xs⟩, hp, rfl⟩ := List.mem_map.mp hx
          have hb := foldl_inv (andStep_safe defd) (es.map (shake1 n)) hmem [] (fun q hq => nomatch hq) _ hp
          exact hbuild (fun xs => .match .all (.group .or xs)) f xs hb (safeL_of_mem defd xs hb)
      · rw [shake1_or]
        have hinv := orInv_classified defd (es.map (shake1 n)) hmem
        apply keyG .or _ _ (.inr rfl)
        intro x hx
        rcases orOut_cases n _ x hx with hx | ⟨s, f, c, rfl⟩ | hx | ⟨⟨f, xs⟩, hp, rfl⟩
        · exact hinv.any x hx
        · rfl
        · exact hinv.rest x hx
        · have hb := hinv.nested _ hp
          exact hbuild (fun xs => .group .or xs) f xs hb (safe_group_iff.mpr ⟨.inr rfl, hb⟩)
    | bin l op r => exact safe_bin_map (ih l) (ih r) h
    | «match» k x =>
      rw [shake1_match]
      exact safe_matchArg ih k x h
    -- by definition `shake1` maps over `negate` / `nested` and `safe` looks through them
    | negate x => exact ih x h
    | nested f x => exact ih x h
    | _ => exact h

theorem shake_safe (defd : Str → Bool) (e : Expr) (h : safe defd e = true) : safe defd (shake e) = true := by
  unfold shake
  exact shake1_safe defd _ _ (shake0_safe defd _ e h)

end Tau
