import Tau.Proofs.Tokeniser
/-
  The text of a token list, one blank after every token (none between a keyword such as `all` /
  `int` and its parenthesis), and for every kind of token the tokeniser step that reads it back.
-/
namespace Tau

def opText : BoolSym → Str
  | .and => "and".toList | .or => "or".toList | .eq => "==".toList
  | .gt => ">".toList | .ge => ">=".toList | .lt => "<".toList | .le => "<=".toList

def modText : ModSym → Str
  | .int => "int".toList | .flt => "flt".toList | .str => "str".toList | .not => "not".toList

/-- `num` = the decimal text chosen for an integer literal. -/
def tokText (num : Int → Str) : Token → Str
  | .ident s => s ++ [' ']
  | .op o => opText o ++ [' ']
  | .miscNot => "not ".toList
  | .lparen => "( ".toList
  | .rparen => ") ".toList
  | .comma => ", ".toList
  | .matchAll => "all".toList
  | .matchOf => "of".toList
  | .modifier m => modText m
  | .int i => num i ++ [' ']
  | .float _ => []     -- no text of its own: `Renderable` has no float tokens

def render (num : Int → Str) : List Token → Str
  | [] => []
  | t :: ts => tokText num t ++ render num ts

/-- A name the tokeniser reads back as one identifier. -/
def goodName (s : Str) : Prop :=
  (∃ c cs, s = c :: cs ∧ isAsciiAlpha c = true) ∧ (∀ c ∈ s, isIdentChar c = true) ∧
  s ≠ "and".toList ∧ s ≠ "or".toList ∧ s ≠ "not".toList

theorem isIdentChar_lparen : isIdentChar '(' = false := by decide

theorem findKeyword_goodName (name rest : Str) (hn : ∀ c ∈ name, isIdentChar c = true)
    (h1 : name ≠ "and".toList) (h2 : name ≠ "or".toList) (h3 : name ≠ "not".toList) :
    findKeyword (name ++ ' ' :: rest) = none := by
  have hnone : keywords.find? (fun k => matchAhead (name ++ ' ' :: rest) k.1) = none := by
    rw [List.find?_eq_none]
    intro k hk hp
    -- by `matchAhead_word` the keyword is the name and the blank: the name is `and`, `or` or `not`
    obtain ⟨w, d, hkd, -, -, -, -, hsp⟩ := keyword_split hk
    obtain ⟨rfl, rfl⟩ : w = name ∧ d = ' ' := by
      simpa using List.append_inj' (hkd.symm.trans (matchAhead_word hk hn (d := ' ') (by decide) hp)) rfl
    exact (hsp rfl).elim h1 fun h => h.elim h2 h3
  simp [findKeyword, hnone]

theorem tokStep_ident (c : Char) (cs rest : Str) (hg : goodName (c :: cs)) :
    tokStep c (cs ++ ' ' :: rest) = .ok (some (.ident (c :: cs)), ' ' :: rest) := by
  obtain ⟨⟨c', cs', he, ha⟩, hn, h1, h2, h3⟩ := hg
  cases he
  have hfk := findKeyword_goodName (c :: cs) rest hn h1 h2 h3
  have hsp := span_takeWhile isIdentChar (c :: cs) ' ' rest hn (by decide)
  simp only [List.cons_append] at hfk hsp
  rw [tokStep_word ha, hfk]
  simp only [hsp.1, hsp.2]

/-- Digits only (so no negative literal), and reads back as that integer. -/
def numOK (num : Int → Str) (i : Int) : Prop :=
  (∃ d ds, num i = d :: ds ∧ isAsciiDigit d = true) ∧ (∀ c ∈ num i, isAsciiDigit c = true) ∧
  parseI64 (num i) = some i

theorem tokStep_int (num : Int → Str) (i : Int) (h : numOK num i) (d : Char) (ds rest : Str)
    (hd : num i = d :: ds) : tokStep d (ds ++ ' ' :: rest) = .ok (some (.int i), ' ' :: rest) := by
  obtain ⟨⟨d', ds', he, hdig⟩, hall, hparse⟩ := h
  rw [hd] at he hall hparse
  cases he
  have hsp := span_takeWhile isNumChar (d :: ds) ' ' rest (fun c hc => by simp [isNumChar, isNumeric, hall c hc]) (by decide)
  simp only [List.cons_append] at hsp
  have hnodot : (d :: ds).contains '.' = false := by
    have : '.' ∉ d :: ds := fun hm => absurd (hall _ hm) (by decide)
    simpa using this
  unfold tokStep
  simp only [hdig, Bool.or_true, if_true, hsp.1, hsp.2, hnodot, Bool.false_eq_true, if_false, hparse]

-- `by rfl`, not `rfl`: a term `rfl` is evaluated once more, for the `@[defeq]` attribute it then gets.
theorem tokStep_space (rest : Str) : tokStep ' ' rest = .ok (none, rest) := by rfl

theorem tokStep_lparen (rest : Str) : tokStep '(' rest = .ok (some .lparen, rest) := by rfl
theorem tokStep_rparen (rest : Str) : tokStep ')' rest = .ok (some .rparen, rest) := by rfl
theorem tokStep_comma (rest : Str) : tokStep ',' rest = .ok (some .comma, rest) := by rfl

theorem tokStep_eq (rest : Str) : tokStep '=' ('=' :: rest) = .ok (some (.op .eq), rest) := by rfl
theorem tokStep_ge (rest : Str) : tokStep '>' ('=' :: rest) = .ok (some (.op .ge), rest) := by rfl
theorem tokStep_le (rest : Str) : tokStep '<' ('=' :: rest) = .ok (some (.op .le), rest) := by rfl
theorem tokStep_gt (rest : Str) : tokStep '>' (' ' :: rest) = .ok (some (.op .gt), ' ' :: rest) := by rfl
theorem tokStep_lt (rest : Str) : tokStep '<' (' ' :: rest) = .ok (some (.op .lt), ' ' :: rest) := by rfl

-- Instances of `tokStep_keyword`; `i` is the entry's position in `kwWords`.
theorem tokStep_and (rest : Str) : tokStep 'a' ('n' :: 'd' :: ' ' :: rest) = .ok (some (.op .and), ' ' :: rest) :=
  tokStep_keyword (cs := ['n', 'd']) (List.mem_of_getElem? (i := 4) rfl) rest
theorem tokStep_or (rest : Str) : tokStep 'o' ('r' :: ' ' :: rest) = .ok (some (.op .or), ' ' :: rest) :=
  tokStep_keyword (cs := ['r']) (List.mem_of_getElem? (i := 5) rfl) rest
theorem tokStep_not (rest : Str) : tokStep 'n' ('o' :: 't' :: ' ' :: rest) = .ok (some .miscNot, ' ' :: rest) :=
  tokStep_keyword (cs := ['o', 't']) (List.mem_of_getElem? (i := 6) rfl) rest
theorem tokStep_all (rest : Str) : tokStep 'a' ('l' :: 'l' :: '(' :: rest) = .ok (some .matchAll, '(' :: rest) :=
  tokStep_keyword (cs := ['l', 'l']) (List.mem_of_getElem? (i := 8) rfl) rest
theorem tokStep_of (rest : Str) : tokStep 'o' ('f' :: '(' :: rest) = .ok (some .matchOf, '(' :: rest) :=
  tokStep_keyword (cs := ['f']) (List.mem_of_getElem? (i := 9) rfl) rest
theorem tokStep_mod (m : ModSym) (rest : Str) :
    ∃ c cs, modText m = c :: cs ∧ tokStep c (cs ++ '(' :: rest) = .ok (some (.modifier m), '(' :: rest) := by
  cases m with
  | int => exact ⟨'i', ['n', 't'], rfl, tokStep_keyword (List.mem_of_getElem? (i := 1) rfl) rest⟩
  | not => exact ⟨'n', ['o', 't'], rfl, tokStep_keyword (List.mem_of_getElem? (i := 7) rfl) rest⟩
  | flt => exact ⟨'f', ['l', 't'], rfl, tokStep_keyword (List.mem_of_getElem? (i := 0) rfl) rest⟩
  | str => exact ⟨'s', ['t', 'r'], rfl, tokStep_keyword (List.mem_of_getElem? (i := 3) rfl) rest⟩

/-- Token lists whose text is unambiguous: good names, unsigned decimal literals, every keyword
    token (`all`, `of`, `int`, …) directly followed by its parenthesis. -/
inductive Renderable (num : Int → Str) : List Token → Prop
  | nil : Renderable num []
  | ident (s ts) : goodName s → Renderable num ts → Renderable num (.ident s :: ts)
  | op (o ts) : Renderable num ts → Renderable num (.op o :: ts)
  | miscNot (ts) : Renderable num ts → Renderable num (.miscNot :: ts)
  | lparen (ts) : Renderable num ts → Renderable num (.lparen :: ts)
  | rparen (ts) : Renderable num ts → Renderable num (.rparen :: ts)
  | comma (ts) : Renderable num ts → Renderable num (.comma :: ts)
  | int (i ts) : numOK num i → Renderable num ts → Renderable num (.int i :: ts)
  | matchAll (ts) : Renderable num (.lparen :: ts) → Renderable num (.matchAll :: .lparen :: ts)
  | matchOf (ts) : Renderable num (.lparen :: ts) → Renderable num (.matchOf :: .lparen :: ts)
  | modifier (m ts) : Renderable num (.lparen :: ts) → Renderable num (.modifier m :: .lparen :: ts)

theorem Renderable.append {num : Int → Str} {a b : List Token} (ha : Renderable num a) (hb : Renderable num b) :
    Renderable num (a ++ b) := by
  induction ha with
  | nil => exact hb
  | ident s ts hg _ ih => exact .ident s _ hg ih
  | op o ts _ ih => exact .op o _ ih
  | miscNot ts _ ih => exact .miscNot _ ih
  | lparen ts _ ih => exact .lparen _ ih
  | rparen ts _ ih => exact .rparen _ ih
  | comma ts _ ih => exact .comma _ ih
  | int i ts hn _ ih => exact .int i _ hn ih
  | matchAll ts _ ih => exact .matchAll _ ih
  | matchOf ts _ ih => exact .matchOf _ ih
  | modifier m ts _ ih => exact .modifier m _ ih

end Tau
